/-
  C05 — Encoding accepts exactly the alphabet and is identical on every backend.

  `tables_dna` / `tables_protein`: the facts about the tables regenerated from abc.rs on every run are
  checked by kernel evaluation over the letters and the arms of `from_ascii` (`TablesCore`); the
  per-byte facts of `TablesOK` follow from them for all 256 byte values by argument
  (`tablesOK_of_core`).  Everything else is proved for every byte string of every length, at every
  position relative to the vector blocks.
-/
import LMV.Model.Encode
import LMV.Lemmas.Sums
import LMV.Lemmas.Outcome

namespace LMV
namespace C05

open Encode

/-! ### C05 (1): facts about one alphabet's tables -/

/-- expected result of one vector lane: the symbol of the byte, or the fill value, flagged -/
def laneSpec (A : Alphabet) (fillv : Nat) (b : UInt8) : UInt8 × UInt8 :=
  match A.fromAscii b with
  | some a => (a.toUInt8, 0)
  | none => (fillv.toUInt8, 0xFF)

/-- `from_ascii` on byte `b` returns the position of `b` in `as_str`, or rejects a non-letter -/
def FromOK (A : Alphabet) (b : UInt8) : Prop :=
  match A.fromAscii b with
  | some a => A.letters[a]? = some b
  | none => b ∉ A.letters

instance (A : Alphabet) (b : UInt8) : Decidable (FromOK A b) := by
  unfold FromOK; split <;> infer_instance

theorem FromOK.of_some {A : Alphabet} {b : UInt8} {a : Nat} (h : FromOK A b)
    (hf : A.fromAscii b = some a) : A.letters[a]? = some b := by
  unfold FromOK at h; rw [hf] at h; exact h

theorem FromOK.of_none {A : Alphabet} {b : UInt8} (h : FromOK A b) (hf : A.fromAscii b = none) :
    b ∉ A.letters := by
  unfold FromOK at h; rw [hf] at h; exact h

/-- the facts about the regenerated tables; the theorems of this file use all of them but `1 ≤ K`,
    `symbols`, `dflt` and the upper-case conjunct -/
def TablesOK (A : Alphabet) : Prop :=
  A.letters.length = A.K ∧ 1 ≤ A.K ∧ A.K ≤ 255 ∧ A.letters.Nodup ∧
  A.symbols = List.range A.K ∧ A.dflt = A.K - 1 ∧
  -- letters are upper-case ASCII
  (∀ b ∈ A.letters, 65 ≤ b.toNat ∧ b.toNat ≤ 90) ∧
  -- `from_ascii` accepts exactly the letters of `as_str` and returns the letter's position
  (∀ n, n < 256 → FromOK A n.toUInt8) ∧
  -- `as_ascii` of symbol `a` is letter `a`
  (∀ a, a < A.K → A.asAscii a = A.letters[a]?) ∧
  -- the AVX2 compare/blend chain and the SSE2 and/andnot/or chain compute `from_ascii` per lane
  (∀ n, n < 256 → laneAvx2 A n.toUInt8 = laneSpec A A.K n.toUInt8) ∧
  (∀ n, n < 256 → laneSse2 A n.toUInt8 = laneSpec A (A.K - 1) n.toUInt8)

instance (A : Alphabet) : Decidable (TablesOK A) := by unfold TablesOK; infer_instance

/-- what is checked by evaluation: `TablesOK` with its three per-byte facts replaced by facts about
    the arms of `from_ascii` -/
def TablesCore (A : Alphabet) : Prop :=
  A.letters.length = A.K ∧ 1 ≤ A.K ∧ A.K ≤ 255 ∧ A.letters.Nodup ∧
  A.symbols = List.range A.K ∧ A.dflt = A.K - 1 ∧
  (∀ b ∈ A.letters, 65 ≤ b.toNat ∧ b.toNat ≤ 90) ∧
  (∀ a, a < A.K → A.asAscii a = A.letters[a]?) ∧
  -- every arm of `from_ascii` returns the position of its byte in `as_str`, and every letter has an arm
  (∀ p ∈ A.fromTbl, A.letters[p.2]? = some p.1) ∧ (∀ b ∈ A.letters, (A.fromAscii b).isSome)

instance (A : Alphabet) : Decidable (TablesCore A) := by unfold TablesCore; infer_instance

theorem fromOK_of_arms {A : Alphabet} (harm : ∀ p ∈ A.fromTbl, A.letters[p.2]? = some p.1)
    (hall : ∀ b ∈ A.letters, (A.fromAscii b).isSome) (b : UInt8) : FromOK A b := by
  unfold FromOK
  split
  next a ha =>
    simp only [Alphabet.fromAscii, Option.map_eq_some_iff] at ha
    obtain ⟨p, hp, rfl⟩ := ha
    -- the arm that was found is the arm of `b`; `==` on `UInt8` is `decide (· = ·)`
    have hpb : p.1 = b := of_decide_eq_true (List.find?_some hp :)
    rw [harm p (List.mem_of_find?_eq_some hp), hpb]
  next hn => exact fun hb => by simpa [hn] using hall b hb

/-- a select chain over `0..n` in which at most index `a₀` hits ends with `g a₀`, or where it started -/
theorem foldl_select {α : Type} (hit : Nat → Bool) (g : Nat → α) (init : α) (a₀ n : Nat)
    (h : ∀ a, a < n → (hit a = true ↔ a = a₀)) :
    (List.range n).foldl (fun st a => if hit a then g a else st) init = if a₀ < n then g a₀ else init := by
  rw [foldl_range_single _ a₀ n fun st a ha hne => if_neg fun hh => hne ((h a ha).mp hh)]
  split
  · next hlt => exact if_pos ((h a₀ hlt).mpr rfl)
  · rfl

/-- the compare-and-select chain over the letters (`cmpeq` / `blendv`, or `and` / `andnot` / `or`)
    ends with the position of `b` among the distinct letters, or with what it started from -/
theorem lane_fold {A : Alphabet} (hlen : A.letters.length = A.K) (hnd : A.letters.Nodup) (b : UInt8)
    (hb : FromOK A b) (fillv : Nat) :
    (List.range A.K).foldl (fun st a => if b == A.letters.getD a 0 then (a.toUInt8, 0) else st)
      (fillv.toUInt8, 0xFF) = laneSpec A fillv b := by
  -- `==` on `UInt8` is `decide (· = ·)`; `beq_iff_eq` would look for `LawfulBEq UInt8` among the order classes first
  have hget : ∀ a, a < A.K → ∃ h : a < A.letters.length, ((b == A.letters.getD a 0) = true ↔ b = A.letters[a]) :=
    fun a ha => ⟨hlen ▸ ha, by
      rw [List.getD_eq_getElem?_getD, List.getElem?_eq_getElem (hlen ▸ ha), Option.getD_some]
      exact decide_eq_true_iff⟩
  unfold laneSpec
  cases hfa : A.fromAscii b with
  | none =>
    have hb := hb.of_none hfa
    -- no index hits: `foldl_select` with the out-of-range index `K`
    rw [foldl_select _ _ _ A.K A.K, if_neg (Nat.lt_irrefl _)]
    intro a ha
    obtain ⟨h, e⟩ := hget a ha
    rw [e]
    exact ⟨fun h' => absurd (h' ▸ List.getElem_mem h) hb, fun h' => absurd h' (Nat.ne_of_lt ha)⟩
  | some a₀ =>
    obtain ⟨h₀, e₀⟩ := List.getElem?_eq_some_iff.mp (hb.of_some hfa)
    rw [foldl_select _ _ _ a₀ A.K, if_pos (hlen ▸ h₀)]
    intro a ha
    obtain ⟨h, e⟩ := hget a ha
    rw [e, ← e₀]
    exact ⟨fun h' => (List.getElem_inj hnd).mp h'.symm, fun h' => by subst h'; rfl⟩

theorem tablesOK_of_core {A : Alphabet} (h : TablesCore A) : TablesOK A := by
  obtain ⟨h1, h2, h3, h4, h5, h6, h7, h8, harm, hall⟩ := h
  have hf := fromOK_of_arms harm hall
  refine ⟨h1, h2, h3, h4, h5, h6, h7, fun n _ => hf _, h8, fun n _ => ?_, fun n _ => ?_⟩
  · rw [← lane_fold h1 h4 n.toUInt8 (hf _) A.K]
    unfold laneAvx2
    refine congrArg (List.foldl · _ _) (funext fun st => funext fun a => ?_)
    cases n.toUInt8 == A.letters.getD a 0 <;> rfl
  · rw [← lane_fold h1 h4 n.toUInt8 (hf _) (A.K - 1)]
    unfold laneSse2
    refine congrArg (List.foldl · _ _) (funext fun st => funext fun a => ?_)
    -- the mask is all ones or zero, so `or(andnot(m, x), and(m, y))` selects
    have : (0xFF : UInt8) = -1 := by decide
    cases n.toUInt8 == A.letters.getD a 0 <;> simp [this]

theorem tables_dna : TablesOK dna := tablesOK_of_core (by decide +kernel)
theorem tables_protein : TablesOK protein := tablesOK_of_core (by decide +kernel)

/-! ### The generic loop and the rescan in closed form (no table fact needed) -/

abbrev bad (A : Alphabet) (b : UInt8) : Bool := (A.fromAscii b).isNone

theorem generic_eq (A : Alphabet) (s : List UInt8) :
    generic A s = match s.find? (bad A) with
      | some e => .error e
      | none => .ok (s.map fun b => (A.fromAscii b).getD 0) := by
  induction s with
  | nil => rfl
  | cons c cs ih =>
    unfold generic
    cases hf : A.fromAscii c with
    | none => simp [bad, hf]
    | some a =>
      simp only [ih, List.find?_cons, bad, hf, Option.isNone_some, List.map_cons, Option.getD_some]
      cases cs.find? (bad A) <;> rfl

theorem generic_eq_ok_iff {A : Alphabet} {s : List UInt8} {v : List Nat} :
    generic A s = .ok v ↔ s.find? (bad A) = none ∧ v = s.map fun b => (A.fromAscii b).getD 0 := by
  rw [generic_eq]
  cases s.find? (bad A) <;> simp [eq_comm]

theorem generic_eq_error_iff {A : Alphabet} {s : List UInt8} {e : UInt8} :
    generic A s = .error e ↔ s.find? (bad A) = some e := by
  rw [generic_eq]
  cases s.find? (bad A) <;> simp

theorem rescan_eq (A : Alphabet) (s : List UInt8) :
    rescan A s = match s.find? (bad A) with
      | some e => .error e
      | none => .ok () := by
  induction s with
  | nil => rfl
  | cons c cs ih =>
    unfold rescan
    cases hf : A.fromAscii c <;> simp [bad, hf, ih]

theorem generic_append (A : Alphabet) (x y : List UInt8) :
    generic A (x ++ y) =
      match generic A x with
      | .error e => .error e
      | .ok v => match generic A y with
        | .error e => .error e
        | .ok w => .ok (v ++ w) := by
  simp only [generic_eq, List.find?_append, List.map_append]
  cases x.find? (bad A) <;> cases y.find? (bad A) <;> rfl

/-- what the block loop has done when it stops: it consumed a prefix `p`, stored `lane` of every
    byte of `p`, and raised the flag iff some lane of `p` was flagged -/
theorem blocks_spec (stride : Nat) (strict : Bool) (lane : UInt8 → UInt8 × UInt8)
    (fuel : Nat) (s acc : List UInt8) (err : Bool) :
    ∃ p rest, s = p ++ rest ∧
      blocks stride strict lane fuel s acc err =
        (acc ++ p.map (fun b => (lane b).1), err || p.any (fun b => (lane b).2 != 0), rest) := by
  fun_induction blocks stride strict lane fuel s acc err with
  | case3 fuel s acc err _ _ blk ih =>  -- the loop test holds: the block `blk` is stored
    obtain ⟨p, rest, h1, h2⟩ := ih
    refine ⟨s.take stride ++ p, rest, ?_, ?_⟩
    · rw [List.append_assoc, ← h1, List.take_append_drop]
    · rw [h2]
      simp only [blk, List.map_append, List.any_append, Bool.or_assoc, List.map_map, List.any_map,
        List.append_assoc, Function.comp_def]
  | case1 | case2 | case4 => exact ⟨[], _, rfl, by simp⟩  -- the loop stops

/-! ### Consequences of the table facts, for every byte -/

section
variable {A : Alphabet} (T : TablesOK A)
include T

-- `TablesOK` is a positional conjunction whose per-byte facts are stated over `n < 256`: it is read
-- here and nowhere else
theorem letters_length : A.letters.length = A.K := T.1

theorem K_le : A.K ≤ 255 := T.2.2.1

theorem letters_nodup : A.letters.Nodup := T.2.2.2.1

theorem fromOK (b : UInt8) : FromOK A b := by
  simpa using T.2.2.2.2.2.2.2.1 b.toNat (UInt8.toNat_lt_size b)

theorem laneA (b : UInt8) : laneAvx2 A b = laneSpec A A.K b := by
  simpa using T.2.2.2.2.2.2.2.2.2.1 b.toNat (UInt8.toNat_lt_size b)

theorem laneS (b : UInt8) : laneSse2 A b = laneSpec A (A.K - 1) b := by
  simpa using T.2.2.2.2.2.2.2.2.2.2 b.toNat (UInt8.toNat_lt_size b)

theorem asAscii_eq (a : Nat) (h : a < A.K) : A.asAscii a = A.letters[a]? :=
  T.2.2.2.2.2.2.2.2.1 a h

theorem fromAscii_eq_some_iff (b : UInt8) (a : Nat) :
    A.fromAscii b = some a ↔ A.letters[a]? = some b := by
  have h := fromOK T b
  constructor
  · exact h.of_some
  · intro e
    cases hf : A.fromAscii b with
    | none => exact absurd (List.mem_of_getElem? e) (h.of_none hf)
    | some a' =>
      obtain ⟨ha, e1⟩ := List.getElem?_eq_some_iff.mp e
      obtain ⟨ha', e2⟩ := List.getElem?_eq_some_iff.mp (h.of_some hf)
      rw [(List.getElem_inj (letters_nodup T)).mp (e2.trans e1.symm)]

theorem mem_letters_iff (b : UInt8) : b ∈ A.letters ↔ ¬ bad A b = true := by
  have h := fromOK T b
  unfold bad
  cases hf : A.fromAscii b with
  | none => exact iff_of_false (h.of_none hf) (not_not_intro rfl)
  | some a => exact iff_of_true (List.mem_of_getElem? (h.of_some hf)) Bool.false_ne_true

theorem fromAscii_lt (b : UInt8) (a : Nat) (h : A.fromAscii b = some a) : a < A.K := by
  rw [← letters_length T]
  exact (List.getElem?_eq_some_iff.mp ((fromAscii_eq_some_iff T b a).mp h)).1

/-! ### C05 (2): the generic encoder accepts exactly the alphabet -/

theorem generic_ok_iff (s : List UInt8) : (∃ v, generic A s = .ok v) ↔ ∀ b ∈ s, b ∈ A.letters := by
  rw [generic_eq]
  cases hf : s.find? (bad A) with
  | some e =>
    simp only [reduceCtorEq, exists_false, false_iff]
    exact fun h => (mem_letters_iff T e).mp (h e (List.mem_of_find?_eq_some hf)) (List.find?_some hf)
  | none =>
    simp only [Except.ok.injEq, exists_eq', true_iff]
    exact fun b hb => (mem_letters_iff T b).mpr (List.find?_eq_none.mp hf b hb)

/-- C05, symbols: symbol `i` of the result is the rank of byte `i` among the letters -/
theorem generic_ok (s : List UInt8) (v : List Nat) (h : generic A s = .ok v) :
    v.length = s.length ∧ ∀ i, (hi : i < s.length) → ∃ a, v[i]? = some a ∧ A.letters[a]? = some s[i] := by
  have hall := (generic_ok_iff T s).mp ⟨v, h⟩
  obtain ⟨-, rfl⟩ := generic_eq_ok_iff.mp h
  refine ⟨by simp, fun i hi => ?_⟩
  obtain ⟨a, ha⟩ := List.getElem?_of_mem (hall s[i] (List.getElem_mem hi))
  exact ⟨a, by simp [hi, (fromAscii_eq_some_iff T _ a).mpr ha], ha⟩

theorem display_of_letters (s : List UInt8) (hall : ∀ b ∈ s, b ∈ A.letters) :
    display A (s.map fun b => (A.fromAscii b).getD 0) = some s := by
  induction s with
  | nil => rfl
  | cons c cs ih =>
    obtain ⟨a, ha⟩ := List.getElem?_of_mem (hall c (by simp))
    have hf := (fromAscii_eq_some_iff T c a).mpr ha
    have h1 : A.asAscii a = some c := by rw [asAscii_eq T a (fromAscii_lt T c a hf)]; exact ha
    have h2 := ih (fun b hb => hall b (by simp [hb]))
    unfold display at h2 ⊢
    simp [List.mapM_cons, hf, h1, h2]

end

/-- C05, errors: failure reports the FIRST byte that is not a letter of the alphabet -/
theorem generic_error {A : Alphabet} (T : TablesOK A) (s : List UInt8) (e : UInt8)
    (h : generic A s = .error e) :
    ∃ pre post, s = pre ++ e :: post ∧ (∀ b ∈ pre, b ∈ A.letters) ∧ e ∉ A.letters := by
  obtain ⟨he, pre, post, hs, hpre⟩ := List.find?_eq_some_iff_append.mp (generic_eq_error_iff.mp h)
  exact ⟨pre, post, hs, fun b hb => (mem_letters_iff T b).mpr fun hn => by simpa [hn] using hpre b hb,
    fun hm => (mem_letters_iff T e).mp hm he⟩

/-- C05, display: displaying an encoded sequence reproduces the input -/
theorem display_generic {A : Alphabet} (T : TablesOK A) (s : List UInt8) (v : List Nat)
    (h : generic A s = .ok v) : display A v = some s := by
  obtain ⟨-, rfl⟩ := generic_eq_ok_iff.mp h
  exact display_of_letters T s ((generic_ok_iff T s).mp ⟨_, h⟩)

/-! ### C05 (3): every backend and every dispatcher arm equals the generic encoder -/

section
variable {A : Alphabet} (T : TablesOK A)
include T

/-- the SIMD skeleton with a correct lane function is the generic encoder, for every stride, either
    loop test, every fill value and every input -/
theorem simd_eq_generic (stride : Nat) (strict : Bool) (f : Nat) (s : List UInt8) :
    simd A stride strict (laneSpec A f) s = generic A s := by
  unfold simd
  rcases blocks_spec stride strict (laneSpec A f) s.length s [] false with ⟨p, rest, hs, hb⟩
  rw [hb]
  have hflag : (fun b => (laneSpec A f b).2 != 0) = bad A := by
    funext b; unfold laneSpec bad; cases A.fromAscii b <;> rfl
  -- a lane that is not flagged holds the symbol of its byte
  have hlane : ∀ b ∈ p, ¬ bad A b = true → ((laneSpec A f b).1).toNat = (A.fromAscii b).getD 0 := by
    intro b _ hb
    unfold laneSpec
    cases hf : A.fromAscii b with
    | none => simp [bad, hf] at hb
    | some a =>
      simp [Nat.toUInt8, UInt8.ofNat, UInt8.toNat]
      show a < 256
      exact Nat.lt_of_lt_of_le (fromAscii_lt T b a hf) (Nat.le_succ_of_le (K_le T))
  simp only [List.nil_append, Bool.false_or, hflag, rescan_eq, generic_eq, hs, List.find?_append,
    List.map_append, List.map_map]
  cases hp : p.find? (bad A) with
  | some e =>
    have : p.any (bad A) = true := List.any_eq_true.mpr ⟨e, List.mem_of_find?_eq_some hp, List.find?_some hp⟩
    simp [this]
  | none =>
    have hnone := List.find?_eq_none.mp hp
    have : p.any (bad A) = false := List.any_eq_false.mpr hnone
    simp only [this, Bool.false_eq_true, if_false, Option.none_or]
    cases rest.find? (bad A) with
    | some e => rfl
    | none =>
      simp only [Except.ok.injEq, List.append_cancel_right_eq]
      exact List.map_congr_left fun b hb => hlane b hb (hnone b hb)

theorem avx2_eq_generic (s : List UInt8) : avx2 A s = generic A s := by
  have : laneAvx2 A = laneSpec A A.K := funext (laneA T)
  unfold avx2; rw [this]; exact simd_eq_generic T 32 false A.K s

theorem sse2_eq_generic (s : List UInt8) : sse2 A s = generic A s := by
  have : laneSse2 A = laneSpec A (A.K - 1) := funext (laneS T)
  unfold sse2; rw [this]; exact simd_eq_generic T 16 true (A.K - 1) s

theorem dispatch_eq_generic (arm : Backend) (s : List UInt8) :
    dispatch A arm s = generic A s := by
  cases arm <;> simp [dispatch, avx2_eq_generic T]

end

/-! ### The property, instantiated for the two alphabets the library ships

  Only the backend and the acceptance clause are instantiated; symbols, first offending byte and
  display are `generic_ok`, `generic_error`, `display_generic` at `tables_dna` / `tables_protein`. -/

/-- C05, backends: all agree with the generic encoder on every byte string -/
theorem c05_dna_backends (arm : Backend) (s : List UInt8) :
    avx2 dna s = generic dna s ∧ sse2 dna s = generic dna s ∧ dispatch dna arm s = generic dna s :=
  ⟨avx2_eq_generic tables_dna s, sse2_eq_generic tables_dna s, dispatch_eq_generic tables_dna arm s⟩

theorem c05_protein_backends (arm : Backend) (s : List UInt8) :
    avx2 protein s = generic protein s ∧ sse2 protein s = generic protein s ∧
      dispatch protein arm s = generic protein s :=
  ⟨avx2_eq_generic tables_protein s, sse2_eq_generic tables_protein s,
   dispatch_eq_generic tables_protein arm s⟩

/-- C05, acceptance: success iff every byte is a letter of the alphabet -/
theorem c05_dna_accepts (s : List UInt8) :
    (∃ v, generic dna s = .ok v) ↔ ∀ b ∈ s, b ∈ dna.letters := generic_ok_iff tables_dna s
theorem c05_protein_accepts (s : List UInt8) :
    (∃ v, generic protein s = .ok v) ↔ ∀ b ∈ s, b ∈ protein.letters :=
  generic_ok_iff tables_protein s

/-- `Symbol::from_char` (the entry point of the text parsers and the Python module) accepts exactly
    the letters of the alphabet below code point 128 and returns the letter's rank; every non-ASCII
    character is rejected, whatever its low byte -/
theorem fromChar_eq_some_iff {A : Alphabet} (T : TablesOK A) (cp a : Nat) :
    A.fromChar cp = some a ↔ cp < 128 ∧ A.letters[a]? = some cp.toUInt8 := by
  unfold Alphabet.fromChar
  by_cases h : cp < 128
  · simp only [h, if_true, true_and]
    exact fromAscii_eq_some_iff T cp.toUInt8 a
  · simp [h]

example : dna.fromChar 65 = some 0 ∧ dna.fromChar 0x141 = none ∧ dna.fromChar 97 = none := by decide +kernel

example : generic dna [65, 84, 71, 67, 78] = .ok [0, 2, 3, 1, 4] := by decide +kernel
example : generic dna [65, 84, 97, 67] = .error 97 := by decide +kernel          -- lower-case 'a' rejected
example : avx2 dna (List.replicate 40 65 ++ [120]) = .error 120 := by decide +kernel
example : sse2 protein (List.replicate 17 88) = .ok (List.replicate 17 20) := by decide +kernel
example : display dna [0, 2, 3, 1, 4] = some [65, 84, 71, 67, 78] := by decide +kernel

end C05
end LMV
