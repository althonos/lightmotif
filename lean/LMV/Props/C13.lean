/-
  C13 — TFM-PVALUE score thresholds are consistent with the exact score distribution.

  Exact instance (`Rat`) of the mirror model LMV.Model.Tfm (the library with the four `fix:` commits
  named in the header of Props/C12).  Shared lemmas (R) `rounding` and (D) `distribution_spec` are in
  LMV.Lemmas.Tfm, and so is the specification: `C12.tail` is P(S ≥ x), `pointMass` is P(S = u),
  `tailD` is P(D ≥ k) for the integer score.  From Props/C12: the coupling (`joint_mono`,
  `tailD_le_tail`, `tail_le_tailD`), the independence of the row order (`permute_perm`, `expect_perm`,
  `tail_permute`) and the granularity arithmetic (`div_ten_pow`, `tenth_div_pow`).
-/
import LMV.Props.C12

namespace LMV
namespace C13
open Tfm C12

/-! ### the scan of `lookup_score`, on a list of (key, mass) in DESCENDING key order -/

def psum (l : List (Int × Rat)) : Rat := (l.map (·.2)).sum

@[simp] theorem psum_nil : psum [] = 0 := rfl
@[simp] theorem psum_cons (x : Int × Rat) (t : List (Int × Rat)) : psum (x :: t) = x.2 + psum t := by
  simp [psum]
theorem psum_append (l₁ l₂ : List (Int × Rat)) : psum (l₁ ++ l₂) = psum l₁ + psum l₂ := by
  simp [psum]

/-- the `pvalues` entries (key, running sum) that the scan writes while it passes the entries of its
    argument without a break, starting from the running sum `sum`; newest first -/
def pvOf (sum : Rat) : List (Int × Rat) → List (Int × Rat)
  | [] => []
  | x :: t => pvOf (sum + x.2) t ++ [(x.1, sum + x.2)]

theorem pvOf_append_singleton (sum : Rat) (l : List (Int × Rat)) (x : Int × Rat) :
    pvOf sum (l ++ [x]) = (x.1, sum + psum l + x.2) :: pvOf sum l := by
  induction l generalizing sum with
  | nil => rw [psum_nil, add_zero]; rfl
  | cons y t ih => rw [List.cons_append, pvOf, ih, pvOf, psum_cons, ← add_assoc, List.cons_append]

/-- The scan `while riter > 0 { sum += q[keys[riter]]; …; if sum >= pvalue { break } riter -= 1 }`
    on the entries `d` from the greatest key down splits `d` into the entries `as` it passed (every
    running sum stayed below `p`) and the rest, in one of three ways:
    * `d` is empty;
    * it ran down to the LAST entry `e0` (the least key) without breaking: `e0` is NOT processed —
      the loop tests `riter > 0` — so its mass is in no running sum and it has no `pvalues` entry;
    * it broke at `b` (its sum reached `p`) with at least one entry `b'` left below. -/
theorem scanDown_spec (p : Rat) (d : List (Int × Rat)) (sum : Rat) (pv : List (Int × Rat)) :
    ∃ as rest, d = as ++ rest ∧
      (∀ as₁ x as₂, as = as₁ ++ x :: as₂ → sum + psum as₁ + x.2 < p) ∧
      ((rest = [] ∧ as = [] ∧ scanDown p sum pv d = (sum, pv, [])) ∨
        (∃ e0, rest = [e0] ∧ scanDown p sum pv d = (sum + psum as, pvOf sum as ++ pv, [e0])) ∨
        (∃ b b' bs, rest = b :: b' :: bs ∧ p ≤ sum + psum as + b.2 ∧
          scanDown p sum pv d =
            (sum + psum as + b.2, (b.1, sum + psum as + b.2) :: (pvOf sum as ++ pv), b :: b' :: bs))) := by
  -- while nothing has been passed there is no running sum to bound
  have hnil : ∀ (s : Rat) (as₁ : List (Int × Rat)) (x : Int × Rat) (as₂ : List (Int × Rat)),
      [] = as₁ ++ x :: as₂ → s + psum as₁ + x.2 < p := fun _ _ _ _ h => by simp at h
  fun_induction scanDown p sum pv d with
  | case1 sum _ => exact ⟨[], [], rfl, hnil sum, Or.inl ⟨rfl, rfl, rfl⟩⟩  -- no keys
  | case2 sum _ e =>  -- `riter == 0`: the last key is not processed
    exact ⟨[], [e], rfl, hnil sum, Or.inr (Or.inl ⟨e, rfl, by rw [psum_nil, add_zero]; rfl⟩)⟩
  | case3 sum _ e e' t _ hb =>  -- `sum >= pvalue`: break at `e`
    rw [le_rat, decide_eq_true_eq] at hb
    refine ⟨[], e :: e' :: t, rfl, hnil sum, Or.inr (Or.inr ⟨e, e', t, rfl, ?_, ?_⟩)⟩
    · rw [psum_nil, add_zero]; exact hb
    · rw [psum_nil, add_zero]; rfl
  | case4 _ _ e _ _ _ hb ih =>  -- `sum < pvalue`: `e` is passed, the scan goes on
    rw [le_rat, decide_eq_true_eq] at hb
    obtain ⟨as, rest, hd, hlt, hcase⟩ := ih
    refine ⟨e :: as, rest, congrArg (e :: ·) hd, ?_, ?_⟩
    · intro as₁ x as₂ h
      cases as₁ with
      | nil => rw [← (List.cons.inj h).1, psum_nil, add_zero]; exact lt_of_not_ge hb
      | cons y as₁' =>
        rw [← (List.cons.inj h).1, psum_cons, ← add_assoc]; exact hlt as₁' x as₂ (List.cons.inj h).2
    · rcases hcase with ⟨h1, h2, h3⟩ | ⟨e0, h1, h3⟩ | ⟨b, b', bs, h1, h2, h3⟩
      · rw [h1, h2] at hd; simp at hd
      · refine Or.inr (Or.inl ⟨e0, h1, ?_⟩)
        rw [h3, psum_cons, ← add_assoc, pvOf, List.append_assoc, List.singleton_append]; rfl
      · refine Or.inr (Or.inr ⟨b, b', bs, h1, ?_, ?_⟩)
        · rw [psum_cons, ← add_assoc]; exact h2
        · rw [h3, psum_cons, ← add_assoc, pvOf, List.append_assoc, List.singleton_append]; rfl

/-! ### `pvalues` look-ups -/

theorem pvGet_cons (k : Int) (v : Rat) (l : List (Int × Rat)) (k' : Int) :
    pvGet ((k, v) :: l) k' = if k = k' then some v else pvGet l k' := by
  rw [pvGet, List.find?_cons]
  by_cases h : k = k'
  · rw [if_pos h, beq_iff_eq.2 h]; rfl
  · rw [if_neg h, beq_false_of_ne h]; rfl

theorem pvGet_nil (k : Int) : pvGet ([] : List (Int × Rat)) k = none := rfl

theorem mem_pvOf {sum : Rat} {as : List (Int × Rat)} {e : Int × Rat} (he : e ∈ pvOf sum as) :
    ∃ x ∈ as, x.1 = e.1 := by
  induction as generalizing sum with
  | nil => simp [pvOf] at he
  | cons y t ih =>
    simp only [pvOf, List.mem_append, List.mem_singleton] at he
    rcases he with he | he
    · obtain ⟨x, hx, h⟩ := ih he
      exact ⟨x, List.mem_cons_of_mem _ hx, h⟩
    · exact ⟨y, List.mem_cons_self, by rw [he]⟩

theorem pvGet_none {l : List (Int × Rat)} {k : Int} (h : ∀ e ∈ l, e.1 ≠ k) : pvGet l k = none := by
  induction l with
  | nil => rfl
  | cons e t ih =>
    obtain ⟨k0, v0⟩ := e
    rw [pvGet_cons]
    have : k0 ≠ k := h (k0, v0) List.mem_cons_self
    simp only [this, if_false]
    exact ih fun e he => h e (List.mem_cons_of_mem _ he)

/-! ### masses and tails along a key-sorted list -/

theorem wsum_split {l₁ l₂ : List (Int × Rat)} {P : Int → Prop} [DecidablePred P]
    (h1 : ∀ x ∈ l₁, P x.1) (h2 : ∀ y ∈ l₂, ¬ P y.1) :
    wsum (l₁ ++ l₂) (fun j => if P j then 1 else 0) = psum l₁ := by
  rw [wsum_append, wsum_congr (H := fun _ => 1) fun e he => if_pos (h1 e he),
    wsum_congr (H := fun _ => 0) fun e he => if_neg (h2 e he)]
  simp [wsum, psum]

theorem desc_split {l₁ l₂ : List (Int × Rat)} {x : Int × Rat}
    (hd : (l₁ ++ x :: l₂).Pairwise (fun a b => b.1 < a.1)) :
    (∀ e ∈ l₁, x.1 < e.1) ∧ ∀ e ∈ l₂, e.1 < x.1 :=
  ⟨fun e he => (List.pairwise_append.1 hd).2.2 e he x List.mem_cons_self,
    (List.pairwise_cons.1 (List.pairwise_append.1 hd).2.1).1⟩

theorem desc_adjacent {l₁ l₂ : List (Int × Rat)} {a b : Int × Rat}
    (hd : (l₁ ++ a :: b :: l₂).Pairwise (fun x y => y.1 < x.1)) :
    ∀ e ∈ l₁ ++ a :: b :: l₂, e.1 ≤ b.1 ∨ a.1 ≤ e.1 := by
  intro e he
  rcases List.mem_append.1 he with he | he
  · exact Or.inr ((desc_split hd).1 e he).le
  · rcases List.mem_cons.1 he with he | he
    · exact Or.inr (by rw [he])
    · rw [List.append_cons] at hd
      rcases List.mem_cons.1 he with he | he
      · exact Or.inl (by rw [he])
      · exact Or.inl ((desc_split hd).2 e he).le

theorem wsum_ge_eq_of_desc {l₁ l₂ : List (Int × Rat)} {x : Int × Rat}
    (hd : (l₁ ++ x :: l₂).Pairwise (fun a b => b.1 < a.1)) :
    wsum (l₁ ++ x :: l₂) (fun j => if x.1 ≤ j then 1 else 0) = psum l₁ + x.2 := by
  rw [show l₁ ++ x :: l₂ = (l₁ ++ [x]) ++ l₂ by simp, wsum_split (P := fun j => x.1 ≤ j),
    psum_append, psum_cons, psum_nil, add_zero]
  · intro e he
    rcases List.mem_append.1 he with he | he
    · exact ((desc_split hd).1 e he).le
    · rw [List.mem_singleton.1 he]
  · exact fun e he => not_le.2 ((desc_split hd).2 e he)

theorem tailFrom_reverse (Q : List (Int × Rat)) (k : Int) :
    tailFrom Q k = wsum Q.reverse (fun j => if k ≤ j then 1 else 0) := by
  rw [tailFrom_eq]
  exact (wsum_perm (List.reverse_perm Q) _).symm

theorem tailFrom_getLast {Q : List (Int × Rat)} (hsort : Q.Pairwise (fun a b => a.1 < b.1))
    {top : Int × Rat} (htop : Q.getLast? = some top) :
    (∀ e ∈ Q, e.1 ≤ top.1) ∧ tailFrom Q top.1 = top.2 := by
  obtain ⟨l, rfl⟩ := List.getLast?_eq_some_iff.1 htop
  have hd : ([] ++ top :: l.reverse).Pairwise (fun a b : Int × Rat => b.1 < a.1) := by
    rw [List.nil_append, ← List.reverse_concat']; exact List.pairwise_reverse.2 hsort
  refine ⟨fun e he => ?_, ?_⟩
  · rcases List.mem_append.1 he with he | he
    · exact ((desc_split hd).2 e (List.mem_reverse.2 he)).le
    · rw [List.mem_singleton.1 he]
  · rw [tailFrom_reverse, List.reverse_append, List.reverse_singleton, List.singleton_append,
      ← List.nil_append (top :: l.reverse), wsum_ge_eq_of_desc hd, psum_nil, zero_add]

/-! ### `lookupScoreQ` on the three outcomes of the scan -/

/-- the scan ran out of keys: `riter == 0` -/
theorem lookupScoreQ_last {E p S : Rat} {Q pv : List (Int × Rat)} {e0 : Int × Rat}
    (h : scanDown p 0 [] Q.reverse = (S, pv, [e0])) (hle : ¬ p < S) :
    lookupScoreQ E Q p = some (e0.1, S, S) := by
  unfold lookupScoreQ
  rw [zero_rat, h]
  simp [hle, pvGet_cons]

/-- the scan stopped at `b` with `sum == pvalue`.  The Rust then runs
    `sum += pvalues.get(&alpha_e).cloned().unwrap_or_default()` for the next key `b'` below: that key
    was not processed yet (`hb'`) and differs from `b` (`hne`), so nothing is added and both range
    ends are `S`. -/
theorem lookupScoreQ_eq {E p S : Rat} {Q pv bs : List (Int × Rat)} {b b' : Int × Rat}
    (h : scanDown p 0 [] Q.reverse = (S, (b.1, S) :: pv, b :: b' :: bs)) (hle : ¬ p < S)
    (hne : b'.1 ≠ b.1) (hb' : pvGet pv b'.1 = none) :
    lookupScoreQ E Q p = some (b.1, S, S) := by
  unfold lookupScoreQ
  rw [zero_rat, h]
  simp [hle, pvGet_cons, hne, hne.symm, hb']

/-- the scan stopped at `b` with `sum > pvalue`; `a` is the key processed before it -/
theorem lookupScoreQ_gt {E p S Sa : Rat} {Q pv below : List (Int × Rat)} {a b : Int × Rat}
    (h : scanDown p 0 [] Q.reverse = (S, (b.1, S) :: (a.1, Sa) :: pv, b :: below)) (hgt : p < S)
    (hne : b.1 ≠ a.1) :
    lookupScoreQ E Q p = some (a.1, if E < ((a.1 - b.1 : Int) : Rat) then Sa else S, Sa) := by
  unfold lookupScoreQ
  rw [zero_rat, h]
  simp [hgt, pvGet_cons, hne]
  split <;> rfl

/-- What `lookup_score` returns after `distribution`, in terms of the tails `tailFrom Q k` stored in
    the map.  `hU` says that the top entry (the bucket `max + 1` at the call site) weighs at most `p`:
    otherwise the scan breaks at once with `sum > pvalue` and `keys[riter + 1]` is out of bounds.
    The result `alpha` is a key, and one of:
    * `sum > pvalue` at the break: `p` lies strictly between the tails at two neighbouring keys
      `ae < alpha`; the range is `[tail alpha, tail ae]` unless the keys are more than `E` apart;
    * `sum == pvalue` at the break: the tail at `alpha` is `p`, the range a point;
    * the scan ran out of keys: `alpha` is the least key, which was never added to the sum, so only
      the mass strictly above it is known to be below `p`; the range is a point. -/
theorem lookupScoreQ_spec {Q : List (Int × Rat)} (hsort : Q.Pairwise (fun a b => a.1 < b.1))
    (hne : Q ≠ []) {p E : Rat} (hp : 0 < p)
    (hU : ∀ top, Q.getLast? = some top → top.2 ≤ p) :
    ∃ alpha a b, lookupScoreQ E Q p = some (alpha, a, b) ∧ (∃ e ∈ Q, e.1 = alpha) ∧
      ((∃ ae, (∃ e ∈ Q, e.1 = ae) ∧ ae < alpha ∧ (∀ e ∈ Q, e.1 ≤ ae ∨ alpha ≤ e.1) ∧
          tailFrom Q alpha < p ∧ p < tailFrom Q ae ∧ (a ≠ b → ((alpha - ae : Int) : Rat) ≤ E)) ∨
        (tailFrom Q alpha = p ∧ a = b) ∨
        ((∀ e ∈ Q, alpha ≤ e.1) ∧ wsum Q (fun k => if alpha < k then 1 else 0) < p ∧ a = b)) := by
  have hd : Q.reverse.Pairwise (fun a b => b.1 < a.1) := List.pairwise_reverse.2 hsort
  obtain ⟨as, rest, hdeq, hlt, hcase⟩ := scanDown_spec p Q.reverse 0 []
  simp only [zero_add, List.append_nil] at hlt hcase
  have hmem : ∀ e, e ∈ Q ↔ e ∈ as ++ rest := fun e => by rw [← hdeq, List.mem_reverse]
  -- the running sum at an entry is the tail at its key
  have hT : ∀ {l₁ x l₂}, as ++ rest = l₁ ++ x :: l₂ → tailFrom Q x.1 = psum l₁ + x.2 := by
    intro l₁ x l₂ h
    rw [tailFrom_reverse, hdeq, h]
    exact wsum_ge_eq_of_desc (h ▸ hdeq ▸ hd)
  -- every sum the scan passed was below `p`
  have has : psum as < p := by
    rcases List.eq_nil_or_concat as with h | ⟨as', a, h⟩
    · rw [h]; exact hp
    · rw [h, List.concat_eq_append, psum_append, psum_cons, psum_nil, add_zero]
      exact hlt as' a [] (by rw [h, List.concat_eq_append])
  rw [hdeq] at hd
  rcases hcase with ⟨h1, h2, _⟩ | ⟨e0, h1, h3⟩ | ⟨b, b', bs, h1, h2, h3⟩
  · rw [h1, h2, List.append_nil, List.reverse_eq_nil_iff] at hdeq
    exact absurd hdeq hne
  · -- the scan ran out of keys
    subst h1
    obtain ⟨hgt, _⟩ := desc_split hd
    refine ⟨e0.1, _, _, lookupScoreQ_last h3 (not_lt.2 has.le), ⟨e0, (hmem e0).2 List.mem_concat_self, rfl⟩,
      Or.inr (Or.inr ⟨fun e he => ?_, ?_, rfl⟩)⟩
    · rcases List.mem_append.1 ((hmem e).1 he) with he | he
      · exact (hgt e he).le
      · rw [List.mem_singleton.1 he]
    · rw [← wsum_perm (List.reverse_perm Q), hdeq, wsum_split (P := fun k => e0.1 < k) hgt]
      · exact has
      · intro y hy; rw [List.mem_singleton.1 hy]; exact lt_irrefl _
  · -- the scan stopped at `b`
    subst h1
    obtain ⟨hgt, hlow⟩ := desc_split hd
    have hbQ : b ∈ Q := (hmem b).2 (List.mem_append_right _ List.mem_cons_self)
    have htb : tailFrom Q b.1 = psum as + b.2 := hT rfl
    by_cases hsum : p < psum as + b.2
    · -- sum > pvalue
      rcases List.eq_nil_or_concat as with has' | ⟨as', a, has'⟩
      · -- the bucket alone exceeds p: excluded by the soundness of the window
        subst has'
        have := hU b (by rw [← List.head?_reverse, hdeq]; rfl)
        rw [psum_nil, zero_add] at hsum
        exact absurd hsum (not_lt.2 this)
      · rw [List.concat_eq_append] at has'
        subst has'
        have hab : b.1 < a.1 := hgt a List.mem_concat_self
        have hta : tailFrom Q a.1 = psum as' + a.2 := hT (l₂ := b :: b' :: bs) (List.append_assoc as' [a] _)
        rw [pvOf_append_singleton, zero_add] at h3
        refine ⟨a.1, _, _, lookupScoreQ_gt h3 hsum hab.ne,
          ⟨a, (hmem a).2 (List.mem_append_left _ List.mem_concat_self), rfl⟩,
          Or.inl ⟨b.1, ⟨b, hbQ, rfl⟩, hab, fun e he => ?_, ?_, ?_, fun hne' => ?_⟩⟩
        · have he' := (hmem e).1 he
          rw [List.append_assoc] at hd he'
          exact desc_adjacent hd e he'
        · rw [hta]; exact hlt as' a [] rfl
        · rw [htb]; exact hsum
        · by_cases hE : E < ((a.1 - b.1 : Int) : Rat)
          · rw [if_pos hE] at hne'; exact absurd rfl hne'
          · exact not_lt.1 hE
    · -- sum == pvalue
      refine ⟨b.1, _, _, lookupScoreQ_eq h3 hsum (hlow b' List.mem_cons_self).ne (pvGet_none fun e he => ?_),
        ⟨b, hbQ, rfl⟩, Or.inr (Or.inl ⟨?_, rfl⟩)⟩
      · obtain ⟨x, hx, hxe⟩ := mem_pvOf he
        rw [← hxe]; exact ((hlow b' List.mem_cons_self).trans (hgt x hx)).ne'
      · rw [htb]; exact le_antisymm (not_lt.1 hsum) h2

/-! ### one call of `lookup_score`, in terms of the exact distribution of the integer score -/

/-- a window `[mn, mx]` is sound for `p`: the bucket above it weighs at most `p`, and below it
    there is either enough mass to reach `p` or no mass at all -/
structure Sound (bg : List Rat) (im : List (List Int)) (p : Rat) (mn mx : Int) : Prop where
  le : mn ≤ mx + 1
  upper : tailD bg im (mx + 1) ≤ p
  lower : p ≤ tailD bg im mn ∨ ∀ k, k ≤ mn → tailD bg im k = tailD bg im mn

/-- `lookup_score` on a sound window, in terms of the exact tails `tailD` of the integer score `D`
    (the three cases of `lookupScoreQ_spec`, read through `tailFrom_distribution`):
    * upper side: `P(D ≥ alpha + 1) ≤ p`;
    * lower side: mass anywhere below `alpha` — some `lo ≤ hi ≤ alpha` with
      `P(D ≥ hi) < P(D ≥ lo)` — puts the tail at `lo` at or above `p`; this is the shape
      `pointMass_add_tailD_le` feeds: a word scoring `u` is such mass;
    * if the returned range is not a point, `P(D ≥ alpha) ≤ p ≤ P(D ≥ ae)` for some `ae` within `E`
      of `alpha` (what `sound_next` starts from).
    This is where the `M ≥ 2` of C13 enters (`hlen`): only then is the top key the bucket `max + 1`
    (`distribution_keys`), which gives `hU`. -/
theorem lookupScore_D {bg : List Rat} (hbg : ∀ b ∈ bg, 0 ≤ b) {im : List (List Int)}
    (him : NonnegRows im) (hlen : 2 ≤ im.length) {p : Rat} (hp : 0 < p) (E : Rat) {mn mx : Int}
    (hs : Sound bg im p mn mx) :
    ∃ alpha a b, lookupScoreQ E (distribution im bg mn mx) p = some (alpha, a, b) ∧
      tailD bg im (alpha + 1) ≤ p ∧
      (∀ lo hi, lo ≤ hi → hi ≤ alpha → tailD bg im hi < tailD bg im lo → p ≤ tailD bg im lo) ∧
      (a ≠ b → tailD bg im alpha ≤ p ∧
        ∃ ae, ((alpha - ae : Int) : Rat) ≤ E ∧ p ≤ tailD bg im ae) := by
  have hne : im ≠ [] := ne_nil_of_two_le hlen
  let Q := distribution im bg mn mx
  have hQk : ∀ e ∈ Q, mn ≤ e.1 ∧ e.1 ≤ mx + 1 := fun e he =>
    (distribution_keys him hs.le e.1 (mem_keys.2 ⟨e, he, rfl⟩)).imp_right fun h => h hlen
  have hsort : Q.Pairwise (fun a b => a.1 < b.1) := distribution_sorted bg im mn mx
  have hQne : Q ≠ [] := distribution_ne_nil bg hne mn mx
  have hT : ∀ k, mn ≤ k → k ≤ mx + 1 → tailFrom Q k = tailD bg im k :=
    fun k h1 h2 => tailFrom_distribution bg him hne h1 h2
  have hanti : ∀ {j k : Int}, j ≤ k → tailD bg im k ≤ tailD bg im j :=
    fun h => tailD_antitone hbg im h
  -- the top entry is the bucket
  have hU : ∀ top, Q.getLast? = some top → top.2 ≤ p := by
    intro top htop
    have htopQ : top ∈ Q := List.mem_of_getLast? htop
    obtain ⟨hmax, h3⟩ := tailFrom_getLast hsort htop
    obtain ⟨eb, hebQ, hebk⟩ := mem_keys.1 (distribution_bucket_key bg hne mn mx)
    have hkey : top.1 = mx + 1 := le_antisymm (hQk top htopQ).2 (hebk ▸ hmax eb hebQ)
    rw [← h3, hT _ (hQk top htopQ).1 (hQk top htopQ).2, hkey]
    exact hs.upper
  obtain ⟨alpha, a, b, hres, ⟨ea, heaQ, heak⟩, hcase⟩ := lookupScoreQ_spec (E := E) hsort hQne hp hU
  have ha1 : mn ≤ alpha := by rw [← heak]; exact (hQk ea heaQ).1
  have ha2 : alpha ≤ mx + 1 := by rw [← heak]; exact (hQk ea heaQ).2
  -- inside the window the tail only changes at a key
  have hflat : ∀ {lo hi}, mn ≤ lo → lo ≤ hi → hi ≤ mx + 1 → (∀ e ∈ Q, e.1 < lo ∨ hi ≤ e.1) →
      tailD bg im lo = tailD bg im hi := fun h1 h2 h3 h =>
    by rw [← hT _ h1 (h2.trans h3), ← hT _ (h1.trans h2) h3]; exact tailFrom_eq_of_no_key h h2
  have hstep : tailD bg im (alpha + 1) ≤ tailD bg im alpha := hanti (Int.le_add_one (Int.le_refl alpha))
  refine ⟨alpha, a, b, hres, ?_⟩
  rcases hcase with ⟨ae, ⟨ee, heeQ, heek⟩, hlt, hgap, h1, h2, h3⟩ | ⟨h1, h2⟩ | ⟨h1, h2, h3⟩
  · -- p strictly between two consecutive tails
    have he1 : mn ≤ ae := by rw [← heek]; exact (hQk ee heeQ).1
    rw [hT alpha ha1 ha2] at h1
    rw [hT ae he1 (hlt.le.trans ha2)] at h2
    refine ⟨le_trans hstep h1.le, fun lo hi hle hhi hstrict => ?_,
      fun hab => ⟨h1.le, ae, h3 hab, h2.le⟩⟩
    by_cases hlo : lo ≤ ae
    · exact le_trans h2.le (hanti hlo)
    · have hlo' : ae < lo := Int.not_le.1 hlo
      refine absurd (hflat (he1.trans hlo'.le) hle (hhi.trans ha2) fun e he => ?_) hstrict.ne'
      exact (hgap e he).imp (fun h => h.trans_lt hlo') hhi.trans
  · -- a tail equals p
    rw [hT alpha ha1 ha2] at h1
    exact ⟨le_trans hstep h1.le, fun lo hi hle hhi _ => h1 ▸ hanti (hle.trans hhi),
      fun hab => absurd h2 hab⟩
  · -- the scan ran out of keys: alpha is the lowest key, all the mass of the window sits at or above it
    have hlow : ∀ {j}, mn ≤ j → j ≤ alpha → tailD bg im j = tailD bg im alpha := fun hj1 hj2 =>
      hflat hj1 hj2 ha2 fun e he => Or.inr (h1 e he)
    refine ⟨?_, fun lo hi hle hhi hstrict => ?_, fun hab => absurd h3 hab⟩
    · by_cases hamx : alpha ≤ mx
      · have : tailFrom Q (alpha + 1) = wsum Q (fun k => if alpha < k then 1 else 0) := by
          rw [tailFrom_eq]; exact wsum_congr fun e _ => if_congr Int.add_one_le_iff rfl rfl
        rw [← hT (alpha + 1) (Int.le_add_one ha1) (Int.add_le_add_right hamx 1), this]
        exact h2.le
      · have hmx : mx + 1 ≤ alpha + 1 := Int.add_le_add_right (Int.le_of_lt (Int.not_le.1 hamx)) 1
        exact le_trans (hanti hmx) hs.upper
    · rcases hs.lower with hl | hl
      · by_cases hlo : lo ≤ mn
        · exact le_trans hl (hanti hlo)
        · have hlo' : mn ≤ lo := Int.le_of_lt (Int.not_le.1 hlo)
          rw [hlow hlo' (hle.trans hhi), hlow (hlo'.trans hle) hhi] at hstrict
          exact absurd hstrict (lt_irrefl _)
      · -- no mass below the window either: the tail is constant up to alpha
        have hall : ∀ j, j ≤ alpha → tailD bg im j = tailD bg im alpha := fun j hj => by
          by_cases hjm : mn ≤ j
          · exact hlow hjm hj
          · rw [hl j (Int.le_of_lt (Int.not_le.1 hjm))]; exact hlow le_rfl ha1
        rw [hall lo (hle.trans hhi), hall hi hhi] at hstrict
        exact absurd hstrict (lt_irrefl _)

/-! ### one refinement step, in terms of the exact score `S` -/

/-- the words scoring exactly `u` have their integer score in `(X_u - E - 1, X_u]`, `X_u` the
    rescaled `u`: they are counted by `P(D ≥ ⌊X_u - E - 1⌋ + 1)` and not by `P(D ≥ ⌊X_u⌋ + 1)` -/
theorem pointMass_add_tailD_le {bg : List Rat} (hbg : ∀ b ∈ bg, 0 ≤ b) (rows : List (List Rat))
    (g u : Rat) :
    pointMass bg rows u +
        tailD bg (recompute rows g).im (⌊u / g + ((recompute rows g).offsets.sum : Int)⌋ + 1) ≤
      tailD bg (recompute rows g).im
        (⌊u / g + ((recompute rows g).offsets.sum : Int) - errorMax g rows - 1⌋ + 1) := by
  have hmono := floor_sub_errorMax_le g rows (u / g + ((recompute rows g).offsets.sum : Int))
  rw [pointMass, ← expect_pair_fst bg g rows, tailD, ← expect_pair_snd bg g rows, ← expect_add,
    tailD, ← expect_pair_snd bg g rows]
  refine joint_mono hbg g rows fun S D r1 r2 => ?_
  dsimp only
  by_cases hSu : S = u
  · -- a word scoring `u`: (R) puts its `D` in `(⌊X_u - E - 1⌋, ⌊X_u⌋]`
    subst hSu
    have h1 : D ≤ ⌊S / g + ((recompute rows g).offsets.sum : Int)⌋ := Int.le_floor.2 r1
    have h2 : ⌊S / g + ((recompute rows g).offsets.sum : Int) - errorMax g rows - 1⌋ < D :=
      Int.floor_lt.2 (sub_lt_iff_lt_add.2 (sub_lt_iff_lt_add.2 (r2.trans_eq (add_right_comm _ _ _))))
    rw [if_pos rfl, if_neg (Int.not_le.2 (Int.lt_add_one_iff.2 h1)), if_pos (Int.add_one_le_iff.2 h2),
      add_zero]
  · rw [if_neg hSu, zero_add]
    exact ite_le_ite (Int.add_le_add_right hmono 1).trans

/-- **C13, one step.**  For a sound window, `lookup_score` does not panic and the threshold
    `t = (alpha - Σoffsets)·g` it yields satisfies, with `d = (M+2)g`:  `P(S ≥ t+d) ≤ p`, and
    `P(S ≥ u-d) ≥ p` for every attainable score `u < t-d`.  If the step has not converged the
    integer tails bracket `p` within `error_max` (used to show the next window sound). -/
theorem lookupScore_step {bg : List Rat} (hbg : ∀ b ∈ bg, 0 ≤ b) (rows : List (List Rat))
    (hlen : 2 ≤ rows.length) {g : Rat} (hg : 0 < g) {p : Rat} (hp : 0 < p) {mn mx : Int}
    (hs : Sound bg (recompute rows g).im p mn mx) :
    ∃ alpha a b, lookupScore (recompute rows g) bg p mn mx = some (alpha, a, b) ∧
      tail bg rows (((alpha - (recompute rows g).offsets.sum : Int) : Rat) * g
        + (rows.length + 2) * g) ≤ p ∧
      (∀ u, 0 < pointMass bg rows u →
        u < ((alpha - (recompute rows g).offsets.sum : Int) : Rat) * g - (rows.length + 2) * g →
        p ≤ tail bg rows (u - (rows.length + 2) * g)) ∧
      (a ≠ b → tailD bg (recompute rows g).im alpha ≤ p ∧
        ∃ ae, ((alpha - ae : Int) : Rat) ≤ errorMax g rows ∧ p ≤ tailD bg (recompute rows g).im ae) := by
  have hE1 := errorMax_le g (ne_nil_of_two_le hlen)
  let E := errorMax g rows
  let O := (recompute rows g).offsets.sum
  have hlen' : 2 ≤ (recompute rows g).im.length := (List.length_map _).symm ▸ hlen
  obtain ⟨alpha, a, b, hres, hU, hL, hC⟩ := lookupScore_D hbg (nonneg_im g rows) hlen' hp E hs
  refine ⟨alpha, a, b, hres, le_trans (tail_le_tailD hbg rows hg ?_) hU, fun u hu hut => ?_, hC⟩
  · rw [← add_mul, mul_div_cancel_right₀ _ hg.ne']
    push_cast; linarith only [hE1]
  · -- some word scores `u`, so `P(D ≥ hi) < P(D ≥ lo)` for the bounds `lo`, `hi` of its integer score
    let Xu : Rat := u / g + (O : Rat)
    have hXu : Xu = u / g + (O : Rat) := rfl
    have hmono : ⌊Xu - E - 1⌋ ≤ ⌊Xu⌋ := floor_sub_errorMax_le g rows Xu
    have hsum := pointMass_add_tailD_le hbg rows g u
    have h1 : Xu < (alpha : Rat) - (rows.length + 2) := by
      rw [← sub_mul, ← div_lt_iff₀ hg, Int.cast_sub, sub_right_comm, lt_sub_iff_add_lt] at hut
      exact hut
    have hhia : ⌊Xu⌋ + 1 ≤ alpha :=
      Int.add_one_le_iff.2 (Int.floor_lt.2 (h1.trans_le (sub_le_self _ (by positivity))))
    refine le_trans (hL (⌊Xu - E - 1⌋ + 1) (⌊Xu⌋ + 1) (Int.add_le_add_right hmono 1) hhia
      (lt_of_lt_of_le (lt_add_of_pos_left _ hu) hsum)) (tailD_le_tail hbg rows hg ?_)
    rw [sub_div, mul_div_cancel_right₀ _ hg.ne', sub_add_eq_add_sub, ← hXu]
    push_cast
    linarith only [Int.lt_floor_add_one (Xu - E - 1), hE1]

/-! ### the window handed to the next refinement is sound -/

@[simp] theorem ceil_rat (a : Rat) : Num.ceil a = Rat.ceil a := rfl

theorem floor_mul_ten (x : Int) : ⌊(x : Rat) * 10⌋ = 10 * x := by
  rw [mul_comm, ← Int.cast_ofNat, ← Int.cast_mul, Int.floor_intCast]

theorem nextWindow_eq (rc : Rec Rat) (alpha : Int) :
    nextWindow rc alpha =
      (10 * (alpha - rc.offsets.sum - halfWidth rc), 10 * (alpha - rc.offsets.sum + halfWidth rc)) := by
  simp only [nextWindow, ofInt_rat, sub_rat, add_rat, mul_rat, ten_rat, floor_rat, ← Int.cast_sub,
    ← Int.cast_add, floor_mul_ten]

theorem halfWidth_ge (g : Rat) (rows : List (List Rat)) :
    errorMax g rows + 1 / 2 ≤ ((halfWidth (recompute rows g) : Int) : Rat) := Rat.le_ceil

theorem halfWidth_pos (g : Rat) (rows : List (List Rat)) : 0 < halfWidth (recompute rows g) :=
  ceil_pos (add_pos_of_nonneg_of_pos (errorMax_nonneg g rows) (by decide +kernel))

theorem slack_pos (g : Rat) (rows : List (List Rat)) : 0 < Rat.ceil (errorMax g rows + 1) :=
  ceil_pos (add_pos_of_nonneg_of_pos (errorMax_nonneg g rows) one_pos)

/-- **window lemma.**  If a step at granularity `g` has not converged — `P(D ≥ α) ≤ p` and some
    `α_e ≥ α - E` has `P(D ≥ α_e) ≥ p` — then the window `ScoresIterator` hands to the next step,
    moved to the integer scores of granularity `g/10` and extended by that step's rounding slack,
    is sound for `p`. -/
theorem sound_next {bg : List Rat} (hbg : ∀ b ∈ bg, 0 ≤ b) (rows : List (List Rat)) {g : Rat}
    (hg : 0 < g) {p : Rat} {alpha ae : Int}
    (h1 : tailD bg (recompute rows g).im alpha ≤ p)
    (h2 : ((alpha - ae : Int) : Rat) ≤ errorMax g rows)
    (h3 : p ≤ tailD bg (recompute rows g).im ae) :
    Sound bg (recompute rows (g / 10)).im p
      ((nextWindow (recompute rows g) alpha).1 + (recompute rows (g / 10)).offsets.sum
        - Rat.ceil (errorMax (g / 10) rows + 1))
      ((nextWindow (recompute rows g) alpha).2 + (recompute rows (g / 10)).offsets.sum) := by
  have hg' : 0 < g / 10 := div_ten_pos hg
  rw [nextWindow_eq]
  let O := (recompute rows g).offsets.sum
  let c := halfWidth (recompute rows g)
  have hcE : errorMax g rows ≤ c := le_trans (le_add_of_nonneg_right (by norm_num)) (halfWidth_ge g rows)
  have hc0 : 0 < c := halfWidth_pos g rows
  have hslE : errorMax (g / 10) rows + 1 ≤ ((Rat.ceil (errorMax (g / 10) rows + 1) : Int) : Rat) :=
    Rat.le_ceil
  have hsl0 := slack_pos (g / 10) rows
  have hdiv : ∀ y : Rat, y * g / (g / 10) = 10 * y := fun y => by
    rw [mul_div_assoc, div_div_cancel₀ hg.ne', mul_comm]
  refine ⟨by omega, ?_, Or.inl ?_⟩
  · -- P(D' > max') ≤ P(S ≥ x) ≤ P(D ≥ alpha) ≤ p,  x = (alpha - O + c)·g
    refine le_trans (le_trans (tailD_le_tail hbg rows hg' (x := ((alpha - O + c : Int) : Rat) * g) ?_)
      (tail_le_tailD hbg rows hg ?_)) h1
    · rw [hdiv]; push_cast; exact le_add_of_nonneg_right zero_le_one
    · rw [mul_div_cancel_right₀ _ hg.ne', Int.cast_add, Int.cast_sub, sub_add_eq_add_sub, sub_add_cancel]
      exact add_le_add_right hcE _
  · -- p ≤ P(D ≥ alpha_e) ≤ P(S ≥ y) ≤ P(D' ≥ min'),  y = (alpha_e - O)·g
    refine le_trans h3 (le_trans (tailD_le_tail hbg rows hg (x := ((ae - O : Int) : Rat) * g) ?_)
      (tail_le_tailD hbg rows hg' ?_))
    · rw [mul_div_cancel_right₀ _ hg.ne', Int.cast_sub, sub_add_cancel]
    · rw [hdiv]; push_cast at h2 ⊢
      -- `linarith` looks for denominators inside every atom that contains a `/`
      generalize errorMax (g / 10) rows = E', (recompute rows (g / 10)).offsets.sum = O' at hslE ⊢
      linarith only [h2, hcE, hslE]

theorem sound_first {bg : List Rat} (rows : List (List Rat)) (g : Rat) {p : Rat} (hp : 0 < p) :
    Sound bg (recompute rows g).im p
      ((firstWindow (recompute rows g)).1 + (recompute rows g).offsets.sum
        - Rat.ceil (errorMax g rows + 1))
      ((firstWindow (recompute rows g)).2 + (recompute rows g).offsets.sum) := by
  have him := nonneg_im g rows
  have hc0 := halfWidth_pos g rows
  have hsl0 := slack_pos g rows
  have hmm := sum_listMin_le_sumMax (recompute rows g).im
  have hmin : (recompute rows g).minRows.sum = ((recompute rows g).im.map listMin).sum := rfl
  have hmax : (recompute rows g).maxRows.sum = sumMax (recompute rows g).im := rfl
  simp only [firstWindow, sub_add_cancel, hmin, hmax]
  refine ⟨by omega, ?_, Or.inr fun k hk => ?_⟩
  · rw [tailD_of_sumMax_lt bg him (Int.lt_add_one_iff.2 (Int.le_add_of_nonneg_right hc0.le))]
    exact hp.le
  · exact tailD_of_le_sum_listMin bg (hk.trans (Int.sub_le_self _ hsl0.le)) (Int.sub_le_self _ hsl0.le)

/-! ### every refinement step -/

/-- what is claimed of one `Iteration` of `approximate_score(p)` for a matrix of width `M` -/
def IterClaim (bg : List Rat) (rows : List (List Rat)) (p : Rat) (it : Iteration Rat) : Prop :=
  tail bg rows (it.score + (rows.length + 2) * it.granularity) ≤ p ∧
    ∀ u, 0 < pointMass bg rows u → u < it.score - (rows.length + 2) * it.granularity →
      p ≤ tail bg rows (u - (rows.length + 2) * it.granularity)

/-- one unconverged step of `approximate_score` at `Rat` that does not panic, with the window
    arithmetic spelled as in the statements below (`ceil(error_max + 1)` is the rounding slack by
    which the window is lowered) -/
theorem scoreSteps_succ (rows : List (List Rat)) (bg : List Rat) (p : Rat) (fuel : Nat) {g : Rat}
    (hg : 0 < g) {mn mx iscore : Int} {start stop : Rat}
    (h : lookupScore (recompute rows g) bg p
        (mn + (recompute rows g).offsets.sum - Rat.ceil (errorMax g rows + 1))
        (mx + (recompute rows g).offsets.sum) = some (iscore, start, stop)) :
    scoreSteps rows bg p (fuel + 1) g false mn mx =
      ({ score := ((iscore - (recompute rows g).offsets.sum : Int) : Rat) * g, start := start,
         stop := stop, granularity := g, converged := decide (start = stop) } ::
        (scoreSteps rows bg p fuel (g / 10) (decide (start = stop))
          (nextWindow (recompute rows g) iscore).1 (nextWindow (recompute rows g) iscore).2).1,
       (scoreSteps rows bg p fuel (g / 10) (decide (start = stop))
          (nextWindow (recompute rows g) iscore).1 (nextWindow (recompute rows g) iscore).2).2) := by
  -- the model spells the slack `Num.ceil (rc.errorMax +ₙ Num.one)`: the same term after unfolding
  have h' : lookupScore (recompute rows g) bg p
      (mn + (recompute rows g).offsets.sum - Num.ceil (Num.add (recompute rows g).errorMax Num.one))
      (mx + (recompute rows g).offsets.sum) = some (iscore, start, stop) := h
  rw [scoreSteps, Bool.false_or, le_rat, zero_rat, if_neg (by rw [decide_eq_true_eq]; exact not_le.2 hg)]
  simp only [h']
  rfl

theorem scoreSteps_spec {bg : List Rat} (hbg : ∀ b ∈ bg, 0 ≤ b) (rows : List (List Rat))
    (hlen : 2 ≤ rows.length) {p : Rat} (hp : 0 < p) (fuel : Nat) :
    ∀ (g : Rat) (conv : Bool) (mn mx : Int), 0 < g →
      (conv = false → Sound bg (recompute rows g).im p
        (mn + (recompute rows g).offsets.sum - Rat.ceil (errorMax g rows + 1))
        (mx + (recompute rows g).offsets.sum)) →
      (scoreSteps rows bg p fuel g conv mn mx).2 = false ∧
        ∀ it ∈ (scoreSteps rows bg p fuel g conv mn mx).1,
          (∃ k : Nat, it.granularity = g / 10 ^ k) ∧ IterClaim bg rows p it := by
  induction fuel with
  | zero => exact fun g conv mn mx _ _ => ⟨rfl, fun _ h => absurd h List.not_mem_nil⟩
  | succ n ih =>
    intro g conv mn mx hg hs
    cases conv with
    | true => exact ⟨rfl, fun _ h => absurd h List.not_mem_nil⟩
    | false =>
      obtain ⟨alpha, a, b, hres, hup, hlow, hC⟩ := lookupScore_step hbg rows hlen hg hp (hs rfl)
      rw [scoreSteps_succ rows bg p n hg hres]
      -- an unconverged step hands a sound window on
      obtain ⟨i1, i2⟩ := ih (g / 10) (decide (a = b)) (nextWindow (recompute rows g) alpha).1
        (nextWindow (recompute rows g) alpha).2 (div_ten_pos hg) fun hab => by
          obtain ⟨c1, ae, c2, c3⟩ := hC (by simpa using hab)
          exact sound_next hbg rows hg c1 c2 c3
      refine ⟨i1, fun it hit => ?_⟩
      rcases List.mem_cons.1 hit with rfl | hit
      · exact ⟨⟨0, by simp⟩, hup, hlow⟩
      · obtain ⟨⟨k, hk⟩, hgood⟩ := i2 it hit
        exact ⟨⟨k + 1, by rw [hk, div_ten_pow]⟩, hgood⟩

/-- **C13.**  For every matrix of width `M ≥ 2`, every order of its rows, every non-negative
    background and every `p > 0`: `approximate_score(p)` never panics, and every `Iteration` — taken
    at a granularity `g = 10^-(k+1)`, threshold `t` — satisfies, with `d = (M+2)g`:
    `P(S ≥ t+d) ≤ p`, and `P(S ≥ u-d) ≥ p` for every attainable score `u < t-d` (in particular the
    largest one); `S` is the exact score of a background-distributed word under the ORIGINAL row
    order. -/
theorem c13 {bg : List Rat} (hbg : ∀ b ∈ bg, 0 ≤ b) (rows : List (List Rat)) (hlen : 2 ≤ rows.length)
    {perm : List Nat} (hperm : perm.Perm (List.range rows.length)) {p : Rat} (hp : 0 < p)
    (fuel : Nat) :
    (approximateScore (permute rows perm) bg p fuel).2 = false ∧
      ∀ it ∈ (approximateScore (permute rows perm) bg p fuel).1,
        (∃ k : Nat, it.granularity = (1 / 10) ^ (k + 1)) ∧ IterClaim bg rows p it := by
  let prow := permute rows perm
  have hpp : prow.Perm rows := permute_perm rows hperm
  have hlen' : 2 ≤ prow.length := by rw [hpp.length_eq]; exact hlen
  have hfirst := sound_first (bg := bg) prow (1 / 10) hp
  obtain ⟨h1, h2⟩ := scoreSteps_spec hbg prow hlen' hp fuel (1 / 10) false
    (firstWindow (recompute prow (1 / 10))).1 (firstWindow (recompute prow (1 / 10))).2
    (by norm_num) (fun _ => hfirst)
  refine ⟨h1, ?_⟩
  intro it hit
  obtain ⟨⟨k, hk⟩, hg1, hg2⟩ := h2 it hit
  refine ⟨⟨k, ?_⟩, ?_, ?_⟩
  · rw [hk, tenth_div_pow]
  · rw [hpp.length_eq] at hg1
    rw [← tail_permute bg rows hperm]; exact hg1
  · intro u hu hut
    rw [hpp.length_eq] at hg2
    rw [← tail_permute bg rows hperm]
    apply hg2 u
    · rw [pointMass, expect_perm bg hpp]; exact hu
    · exact hut

/-- the hypotheses of `c13` are satisfiable and the iterator does produce iterations: a concrete
    run (2×2 matrix, uniform background) yields a first iteration without panicking -/
example : ∃ it, it ∈ (approximateScore (permute [[(1 : Rat), -1], [0, 2]] [1, 0]) [1 / 2, 1 / 2] (1 / 3) 1).1 := by
  have h := (c13 (bg := [1 / 2, 1 / 2]) (by intro b hb; simp at hb; rw [hb]; norm_num)
    [[(1 : Rat), -1], [0, 2]] (by simp) (perm := [1, 0]) (by decide) (p := 1 / 3) (by norm_num) 1).1
  revert h
  simp only [approximateScore, scoreSteps]
  split
  · rename_i h; norm_num at h
  · split
    · intro h; simp at h
    · intro _; exact ⟨_, List.mem_cons_self⟩

/-- the property as stated in properties.jsonl, for the model: `p ∈ (0,1)`, width `M ≥ 2`, any
    non-negative background, any order of the rows, every refinement step; "attainable" = a score
    of positive probability -/
def Statement : Prop :=
  ∀ (bg : List Rat) (rows : List (List Rat)) (perm : List Nat) (p : Rat) (fuel : Nat),
    (∀ b ∈ bg, 0 ≤ b) → 2 ≤ rows.length → perm.Perm (List.range rows.length) → 0 < p → p < 1 →
    (approximateScore (permute rows perm) bg p fuel).2 = false ∧
    ∀ it ∈ (approximateScore (permute rows perm) bg p fuel).1,
      tail bg rows (it.score + (rows.length + 2) * it.granularity) ≤ p ∧
        ∀ u, 0 < pointMass bg rows u → u < it.score - (rows.length + 2) * it.granularity →
          p ≤ tail bg rows (u - (rows.length + 2) * it.granularity)

theorem c13_statement : Statement := by
  intro bg rows perm p fuel hbg hlen hperm hp _
  obtain ⟨h1, h2⟩ := c13 hbg rows hlen hperm hp fuel
  exact ⟨h1, fun it hit => (h2 it hit).2⟩

end C13
end LMV
