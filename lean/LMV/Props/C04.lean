/-
  C04 — Striping is a lossless, backend-independent rearrangement of the sequence.

  The sections follow the numbering of DESIGN.md §7 C04: (1) generic striping, (3) `configure_wrap`
  and op histories, (4) look-ahead, (5) reading back.  (2), the AVX2 kernel and the dispatcher arms,
  is in Props/C04Avx2.lean.
-/
import LMV.Lemmas.Stripe

namespace LMV
namespace C04

open Striped
open Mat (Patch)

variable {C : Nat}

/-- number of sequence rows for a sequence of length `L` in `C` columns: `ceil(L / C)` -/
def seqRowsOf (C L : Nat) : Nat := (L + (C - 1)) / C

/-- THE uniform invariant (DESIGN.md §7 C04 (3)): with `R = ceil(L/C)` sequence rows and `W` wrap
    rows, cell `(t, c)` of EVERY row `t < R + W` holds `s⟦c·R + t⟧` (the symbol, or the wildcard
    past the end).  It says at once: symbol `i` sits at row `i mod R`, column `i div R`; every other
    cell holds the wildcard; and look-ahead row `k` (row `R + k`) is row `k` shifted left by one
    column, since `s⟦c·R + (R + k)⟧ = s⟦(c+1)·R + k⟧`. -/
structure Inv (N : Nat) (st : Striped C) (s : List Nat) : Prop where
  len : st.length = s.length
  rows : st.data.rows = seqRowsOf C s.length + st.wrap
  cell : ∀ t c, t < seqRowsOf C s.length + st.wrap → c < C →
    st.data.get t c = pad N s (c * seqRowsOf C s.length + t)

theorem seqRowsOf_mul_ge (hC : 0 < C) (L : Nat) : L ≤ seqRowsOf C L * C :=
  le_ceilDiv_mul hC L

theorem seqRowsOf_zero (hC : 0 < C) : seqRowsOf C 0 = 0 := by
  rw [seqRowsOf, Nat.zero_add]; exact Nat.div_eq_of_lt (Nat.sub_one_lt (Nat.ne_of_gt hC))

theorem seqRowsOf_pos (hC : 0 < C) {L : Nat} (hL : 0 < L) : 0 < seqRowsOf C L :=
  Nat.pos_of_mul_pos_right (Nat.lt_of_lt_of_le hL (seqRowsOf_mul_ge hC L))

theorem seqRowsOf_coord (hC : 0 < C) {L i : Nat} (hi : i < L) :
    i % seqRowsOf C L < seqRowsOf C L ∧ i / seqRowsOf C L < C ∧
      i / seqRowsOf C L * seqRowsOf C L + i % seqRowsOf C L = i :=
  pos_coord (Nat.lt_of_lt_of_le hi (Nat.mul_comm C _ ▸ seqRowsOf_mul_ge hC L))

/-- one row further down than the sequence rows is one column further right: the position of cell
    `(R + k, c)` is that of cell `(k, c + 1)`, past the end of the sequence in the last column -/
theorem pad_shift (hC : 0 < C) (N : Nat) (s : List Nat) (c k : Nat) :
    pad N s (c * seqRowsOf C s.length + (seqRowsOf C s.length + k)) =
      if c + 1 < C then pad N s ((c + 1) * seqRowsOf C s.length + k) else N := by
  split
  · rw [Nat.add_mul, Nat.one_mul, Nat.add_assoc]
  · next h =>
    -- the position is at least `(c + 1)·R`, hence `C·R`, which is at least the length
    refine pad_of_le N s _ (Nat.le_trans (seqRowsOf_mul_ge hC s.length) ?_)
    rw [← Nat.add_assoc, ← Nat.add_one_mul, Nat.mul_comm]
    exact Nat.le_add_right_of_le (Nat.mul_le_mul_right _ (Nat.le_of_not_lt h))

/-- `data.rows - wrap`: the number of sequence rows, as the model functions write it inline -/
theorem Inv.seqRows {N : Nat} {st : Striped C} {s : List Nat} (h : Inv N st s) :
    st.data.rows - st.wrap = seqRowsOf C s.length := by rw [h.rows, Nat.add_sub_cancel]

theorem Inv.unique {N : Nat} {a b : Striped C} {s : List Nat} (ha : Inv N a s) (hb : Inv N b s)
    (hw : a.wrap = b.wrap) : a = b := by
  obtain ⟨da, la, wa⟩ := a
  obtain ⟨db, lb, wb⟩ := b
  obtain rfl : wa = wb := hw
  obtain rfl : la = lb := ha.len.trans hb.len.symm
  congr 1
  exact Mat.ext (ha.rows.trans hb.rows.symm) fun r c hr hc =>
    (ha.cell r c (ha.rows ▸ hr) hc).trans (hb.cell r c (ha.rows ▸ hr) hc).symm

/-! ### (1) the generic striping loop: closed form, for every column count `C ≥ 1`, into any buffer -/

theorem stripeGeneric_length (N : Nat) (s : List Nat) (old : Striped C) :
    (stripeGeneric N s old).length = s.length := rfl

theorem stripeGeneric_wrap (N : Nat) (s : List Nat) (old : Striped C) :
    (stripeGeneric N s old).wrap = 0 := rfl

theorem stripeGeneric_rows (N : Nat) (s : List Nat) (old : Striped C) :
    (stripeGeneric N s old).data.rows = seqRowsOf C s.length := by
  simp only [stripeGeneric, writeCells, Mat.rows_foldl, Mat.rows_set, Mat.rows_resize, seqRowsOf,
    implies_true]

theorem stripeGeneric_get (hC : 0 < C) (N : Nat) (s : List Nat) (old : Striped C) (r c : Nat)
    (hr : r < seqRowsOf C s.length) (hc : c < C) :
    (stripeGeneric N s old).data.get r c = pad N s (c * seqRowsOf C s.length + r) := by
  fun_cases stripeGeneric N s old with
  | case1 L R d0 arr d1 d2 =>
    -- `R` is `seqRowsOf C L` by `rfl`; `d1` is the matrix after the symbol loop, `d2` after the fill loop
    change r < R at hr
    show d2.get r c = pad N s (c * R + r)
    have hR : 0 < R := Nat.zero_lt_of_lt hr
    have hge : L ≤ R * C := seqRowsOf_mul_ge hC L
    have hp : c * R + r < R * C := Nat.mul_comm C _ ▸ pos_lt hc hr
    have h1 : Patch d0 d1 _ _ := writeCells_patch R hR (fun i => arr.getD i N) 0 L d0
    have h2 : Patch d1 d2 _ _ := writeCells_patch R hR (fun _ => N) L (R * C - L) d1
    have hr' : r < d0.rows := Nat.lt_of_lt_of_eq hr (Mat.rows_resize ..).symm
    rcases Nat.lt_or_ge (c * R + r) L with hlt | hle
    · -- a real symbol: written by the symbol loop, left alone by the fill loop
      exact ((h2.miss r c (fun h => Nat.not_le_of_lt hlt h.2.1) _).trans
        (h1.hit r c hr' hc ⟨hr, Nat.zero_le _, by rwa [Nat.zero_add]⟩ _)).trans (toArray_getD ..)
    · -- past the end: the fill loop writes the wildcard
      exact (h2.hit r c (Nat.lt_of_lt_of_eq hr' h1.rows.symm) hc
        ⟨hr, hle, by rwa [Nat.add_sub_cancel' hge]⟩ _).trans (pad_of_le _ _ _ hle).symm

/-- generic striping establishes the invariant, whatever the buffer held before -/
theorem stripeGeneric_inv (hC : 0 < C) (N : Nat) (s : List Nat) (old : Striped C) :
    Inv N (stripeGeneric N s old) s where
  len := rfl
  rows := by rw [stripeGeneric_rows, stripeGeneric_wrap]; rfl
  cell := by
    intro t c ht hc
    exact stripeGeneric_get hC N s old t c ht hc

/-! ### (3) `configure_wrap` preserves the invariant — any `m`, any earlier wrap, also `m > R`, `R = 0` -/

theorem configureWrap_inv (hC : 0 < C) (N : Nat) (s : List Nat) (st : Striped C) (m : Nat)
    (h : Inv N st s) : Inv N (configureWrap N m st) s := by
  fun_cases configureWrap N m st with
  | case2 => exact h
  | case1 hm R d0 d1 =>
    -- `R`, the model's `data.rows - wrap`, is the number of sequence rows
    have hR : R = seqRowsOf C s.length := h.seqRows
    clear_value R
    subst hR
    have hn : st.data.rows + m - st.wrap = seqRowsOf C s.length + m := by
      rw [h.rows, Nat.add_right_comm, Nat.add_sub_cancel]
    have hrows : d0.rows = seqRowsOf C s.length + m := (Mat.rows_resize ..).trans hn
    -- the resized matrix holds the sequence in its old rows; so it does in all if `R = 0`, the
    -- sequence being empty and every padded read the wildcard
    have h0 : ∀ t c, t < seqRowsOf C s.length + m → c < C →
        t < seqRowsOf C s.length + st.wrap ∨ seqRowsOf C s.length = 0 →
        d0.get t c = pad N s (c * seqRowsOf C s.length + t) := by
      intro t c ht hc hold
      rw [show d0.get t c = _ from Mat.get_resize .., if_pos (hn ▸ ht), h.rows]
      split
      · next h1 => exact h.cell t c h1 hc
      · have hge := seqRowsOf_mul_ge hC s.length
        rw [hold.resolve_left ‹_›, Nat.zero_mul] at hge
        exact (pad_of_le N s _ (Nat.le_trans hge (Nat.zero_le _))).symm
    -- wrap row `i` is copied from row `i`: a sequence row, or (`i ≥ R > 0`) a wrap row written earlier
    -- (`d1` is the two loops the model writes inline; `wrapRow` and `shiftLoop` name them)
    have key : Patch d0 d1 (fun r _ => ∃ i, i < m ∧ r = seqRowsOf C s.length + i)
        (fun r c => pad N s (c * seqRowsOf C s.length + r)) := by
      refine Patch.range (fun i d => wrapRow N (seqRowsOf C s.length) i d) _ d0 m (fun i hi d' hd' =>
        (wrapRow_patch N _ i d').vals fun r c _ hc hr => ?_) fun _ _ _ _ => Iff.rfl
      rw [hr, pad_shift hC N s c i]
      refine ite_congr rfl (fun hc1 => ?_) fun _ => rfl
      by_cases hw : ∃ j, j < i ∧ i = seqRowsOf C s.length + j
      · exact (hd'.hit i (c + 1) (hrows ▸ Nat.lt_add_left _ hi) hc1 hw _).symm
      · -- row `i` was not written earlier: it is a sequence row, or there is none (were `0 < R ≤ i`,
        -- wrap row `i - R` would have written it)
        have hold : i < seqRowsOf C s.length + st.wrap ∨ seqRowsOf C s.length = 0 :=
          (Nat.lt_or_ge i _).imp (Nat.lt_add_right _) fun hRi => Nat.eq_zero_of_not_pos fun hR =>
            hw ⟨i - _, Nat.sub_lt (Nat.lt_of_lt_of_le hR hRi) hR, (Nat.add_sub_cancel' hRi).symm⟩
        exact ((hd'.miss i (c + 1) hw _).trans (h0 i (c + 1) (Nat.lt_add_left _ hi) hc1 hold)).symm
    refine ⟨h.len, key.rows.trans hrows, fun t c (ht : t < _ + m) hc => ?_⟩
    by_cases htR : t < seqRowsOf C s.length
    · exact (key.miss t c (by rintro ⟨i, -, rfl⟩; exact Nat.not_le_of_lt htR (Nat.le_add_right _ i)) _).trans
        (h0 t c ht hc (.inl (Nat.lt_add_right _ htR)))
    · obtain ⟨i, rfl⟩ := Nat.exists_eq_add_of_le (Nat.le_of_not_lt htR)
      exact key.hit _ c (hrows ▸ ht) hc ⟨i, Nat.lt_of_add_lt_add_left ht, rfl⟩ _

theorem configure_inv (hC : 0 < C) (N : Nat) (s : List Nat) (st : Striped C) (M : Nat)
    (h : Inv N st s) : Inv N (configure N M st) s := by
  fun_cases configure N M st with
  | case1 => exact configureWrap_inv hC N s st _ h
  | case2 => exact h

theorem configureWrap_wrap (N m : Nat) (st : Striped C) :
    (configureWrap N m st).wrap = max m st.wrap := by
  fun_cases configureWrap N m st with
  | case1 hm => exact (Nat.max_eq_left (Nat.le_of_lt hm)).symm
  | case2 hm => exact (Nat.max_eq_right (Nat.le_of_not_lt hm)).symm

/-! ### every finite sequence of operations on one buffer (generic backend; the AVX2 kernel and the
dispatcher arms are shown equal to it in Props/C04Avx2.lean) -/

inductive StripeOp
  | stripeInto (s : List Nat)   -- `stripe_into(s, &mut buf)` — also a fresh `stripe(s)`
  | configureWrap (m : Nat)
  | configure (motifLen : Nat)

/-- effect of one operation on the buffer, and on the sequence the buffer is supposed to hold -/
def StripeOp.apply (N : Nat) : StripeOp → Striped C × List Nat → Striped C × List Nat
  | .stripeInto s', (st, _) => (stripeGeneric N s' st, s')
  | .configureWrap m, (st, s) => (Striped.configureWrap N m st, s)
  | .configure M, (st, s) => (Striped.configure N M st, s)

/-- **C04, histories**: the invariant holds after every finite sequence of `stripe_into` /
    `configure_wrap` / `configure` calls on one buffer, for any widths in any order. -/
theorem ops_inv (hC : 0 < C) (N : Nat) (ops : List StripeOp) (st : Striped C) (s : List Nat)
    (h : Inv N st s) :
    Inv N (ops.foldl (fun x op => op.apply N x) (st, s)).1
          (ops.foldl (fun x op => op.apply N x) (st, s)).2 := by
  induction ops generalizing st s with
  | nil => exact h
  | cons op ops ih =>
    simp only [List.foldl_cons]
    cases op with
    | stripeInto s' => exact ih _ _ (stripeGeneric_inv hC N s' st)
    | configureWrap m => exact ih _ _ (configureWrap_inv hC N s st m h)
    | configure M => exact ih _ _ (configure_inv hC N s st M h)

/-- the empty buffer (`StripedSequence::default()`) satisfies the invariant for the empty sequence -/
theorem empty_inv (hC : 0 < C) (N : Nat) : Inv N (Striped.empty : Striped C) [] where
  len := rfl
  rows := by simp [Striped.empty, seqRowsOf_zero hC]
  cell := by
    intro t c ht _
    simp [Striped.empty, seqRowsOf_zero hC] at ht

/-! ### (4) look-ahead, as used by the scoring kernels -/

/-- under the invariant, `j` rows below sequence row `r` one finds the symbols `j` positions later
    in the same column's stretch of the sequence — also across the column boundary -/
theorem lookahead (N : Nat) (st : Striped C) (s : List Nat) (h : Inv N st s)
    (r j c : Nat) (hr : r < seqRowsOf C s.length) (hj : j ≤ st.wrap) (hc : c < C) :
    st.data.get (r + j) c = pad N s (c * seqRowsOf C s.length + r + j) := by
  rw [h.cell (r + j) c (Nat.add_lt_add_of_lt_of_le hr hj) hc, Nat.add_assoc]

/-- look-ahead row `k` is sequence row `k` shifted left by one column (the last column gets the
    wildcard) — the statement of the property -/
theorem lookahead_row_shift (hC : 0 < C) (N : Nat) (st : Striped C) (s : List Nat) (h : Inv N st s)
    (k c : Nat) (hk : k < st.wrap) (hc : c < C) :
    st.data.get (seqRowsOf C s.length + k) c =
      if c + 1 < C then st.data.get k (c + 1) else N := by
  rw [h.cell _ c (Nat.add_lt_add_left hk _) hc, pad_shift hC N s c k]
  exact ite_congr rfl (fun h1 => (h.cell k (c + 1) (Nat.lt_add_left _ hk) h1).symm) fun _ => rfl

/-! ### (5) reading back: `index` -/

/-- indexing the striped sequence by `i < L` never panics and returns symbol `i`, before and after
    any number of `configure_wrap` calls -/
theorem index_eq (hC : 0 < C) (N : Nat) (st : Striped C) (s : List Nat) (h : Inv N st s)
    (i : Nat) (hi : i < s.length) : st.index i = .ok (s.getD i N) := by
  obtain ⟨hrow, hcol, e⟩ := seqRowsOf_coord hC hi
  unfold Striped.index
  simp only [h.seqRows]
  rw [if_neg (Nat.ne_of_gt (Nat.zero_lt_of_lt hrow)), if_pos ⟨h.rows ▸ Nat.lt_add_right _ hrow, hcol⟩,
    h.cell _ _ (Nat.lt_add_right _ hrow) hcol, e]
  rfl

/-! ### (5b) reading back: counting symbols -/

theorem countSymbol_eq_sum (st : Striped C) (sym : Nat) :
    st.countSymbol sym =
      sumTo (st.data.rows - st.wrap) (fun i => sumTo C (fun j =>
        if j * (st.data.rows - st.wrap) + i < st.length ∧ st.data.get i j = sym then 1 else 0)) := by
  unfold Striped.countSymbol sumTo
  refine foldl_ext_mem _ _ _ (fun cnt i _ => ?_) 0
  dsimp only
  -- `cnt +` the inner sum is the inner sum started at `cnt`; then the two inner loops agree step by step
  rw [foldl_add_init _ _ 0, Nat.zero_add, ← foldl_add_init]
  exact foldl_ext_mem _ _ _ (fun cnt j _ => (apply_ite (cnt + ·) _ 1 0).symm) cnt

/-- **C04, counting**: counting a symbol in the striped sequence (before or after any number of
    `configure_wrap` calls) gives its number of occurrences in the linear sequence -/
theorem countSymbol_eq (hC : 0 < C) (N : Nat) (st : Striped C) (s : List Nat) (h : Inv N st s)
    (sym : Nat) : st.countSymbol sym = s.count sym := by
  rw [countSymbol_eq_sum]
  simp only [sumTo_eq, h.seqRows, h.len]
  -- under the invariant the cell tested is the padded read of its position `j·R + i`
  let g : Nat → Nat := fun p => if p < s.length ∧ s.getD p N = sym then 1 else 0
  have hcell : ∀ i, i < seqRowsOf C s.length → ∀ j, j < C →
      (if j * seqRowsOf C s.length + i < s.length ∧ st.data.get i j = sym then 1 else 0) =
        g (j * seqRowsOf C s.length + i) := fun i hi j hj => by
    rw [h.cell i j (Nat.lt_add_right _ hi) hj]; rfl
  rw [Sampler.sumTo_congr fun i hi => Sampler.sumTo_congr (hcell i hi), Sampler.sumTo_swap,
    Sampler.sumTo_grid, Nat.mul_comm,
    Sampler.sumTo_extend g (seqRowsOf_mul_ge hC s.length) fun p hp => if_neg fun h => Nat.not_lt_of_le hp h.1,
    ← Sampler.sumTo_count s N sym]
  exact Sampler.sumTo_congr fun p hp => by simp only [g, hp, true_and]

example : Inv 4 (stripeGeneric (C := 4) 4 [0, 2, 3, 1, 0] Striped.empty) [0, 2, 3, 1, 0] :=
  stripeGeneric_inv (by decide) 4 _ _
example : ((Striped.configureWrap 4 2 (stripeGeneric (C := 4) 4 [0, 2, 3, 1, 0] Striped.empty)).data.toLists)
    = [[0, 3, 0, 4], [2, 1, 4, 4], [3, 0, 4, 4], [1, 4, 4, 4]] := by decide

end C04
end LMV
