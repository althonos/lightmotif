/-
  C14 — Well-formed motif files load completely and exactly under any stream chunking.
-/
import LMV.Lemmas.Jaspar16RT
import LMV.Lemmas.UniprobeRT
import LMV.Lemmas.TransfacRT

namespace LMV
namespace C14

open Io Nom

/-- **Chunking independence.**  For every schedule of chunk sizes, `read_until(d)` appends the
    prefix of the stream through the first `d` and leaves the rest. -/
theorem chunking_independence (d : UInt8) (sched : List Nat) (bytes : Bytes) :
    (readUntil d sched bytes).1 = through d bytes ∧ (readUntil d sched bytes).2.1 = after d bytes :=
  readUntil_eq d sched bytes

example : (readUntil 62 [2, 1, 5] [1, 2, 3, 62, 4, 62]).1 = [1, 2, 3, 62] ∧
    (readUntil 62 [2, 1, 5] [1, 2, 3, 62, 4, 62]).2.1 = [4, 62] := by decide

/-- chunking independence of `read_line` (UniPROBE, TRANSFAC) -/
theorem chunking_independence_lines (sched : List Nat) (bytes : Bytes) :
    (readLine sched bytes).1 = (if validUtf8 (through 10 bytes) then some (through 10 bytes) else none) ∧
    (readLine sched bytes).2.1 = after 10 bytes :=
  readLine_eq sched bytes

/-- **`parseNat (digits n) = n`**: nom's `u32` reads the decimal rendering of every `n < 2^32`
    back and stops right after it, whatever non-digit follows -/
theorem parseNat_digits (n : Nat) (hn : n < 4294967296) (tail : Bytes) (ht : StartsNot isDigit tail) :
    u32 (Jaspar.digits n ++ tail) = .ok tail n :=
  Jaspar.uint_digits _ n hn tail ht

example : u32 (Jaspar.digits 4294967295 ++ [0x20, 0x31]) = .ok [0x20, 0x31] 4294967295 :=
  parseNat_digits _ (by decide) _ (by simp only [StartsNot]; decide)

/-- **JASPAR (raw) round trip.**  For every list of well-formed motifs (any number of them, any
    width, counts up to `u32::MAX`, description present or absent), every schedule of chunk sizes
    and every buffer-capacity policy, the reader returns exactly those motifs in order — identifier
    and description as written, every count in the row of its position and the column of its
    symbol, the `N` column zero — and then signals the end of input. -/
theorem jaspar_round_trip (grow : Nat → Nat → Nat → Nat) (sched : List Nat) (rs : List Jaspar.Src)
    (hwf : ∀ r ∈ rs, Jaspar.WF r) :
    outcomes (Jaspar.next Jaspar.record grow) (rs.length + 1)
        (Jaspar.new grow sched (Jaspar.render rs))
      = rs.map (fun r => Outcome.record (Jaspar.expect r)) ++ [Outcome.done] :=
  Jaspar.roundTrip_of Jaspar.formatOK grow sched rs hwf

def demo : List Jaspar.Src :=
  [{ id := [0x4D, 0x41], description := some [0x61, 0x20, 0x62], a := [1, 4294967295], c := [0, 2],
     g := [3, 0], t := [7, 7] },
   { id := [], description := none, a := [], c := [], g := [], t := [] }]

example : ∀ r ∈ demo, Jaspar.WF r := by decide

example : outcomes (Jaspar.next Jaspar.record Jaspar.growAmortized) 3
    (Jaspar.new Jaspar.growAmortized [1, 3, 2] (Jaspar.render demo))
      = demo.map (fun r => Outcome.record (Jaspar.expect r)) ++ [Outcome.done] :=
  jaspar_round_trip _ _ demo (by decide)

/-- **JASPAR 2016 round trip.**  Symbol lines in any order, any non-empty duplicate-free subset of
    the alphabet (DNA or protein: every alphabet whose tables satisfy `LettersOK`); symbols that are
    not listed read back as zero columns. -/
theorem jaspar16_round_trip (A : Alphabet) (hA : A.LettersOK) (grow : Nat → Nat → Nat → Nat)
    (sched : List Nat) (rs : List Jaspar16.Src) (hwf : ∀ r ∈ rs, Jaspar16.WF A r) :
    outcomes (Jaspar.next (Jaspar16.record A) grow) (rs.length + 1)
        (Jaspar.new grow sched (Jaspar16.render A rs))
      = rs.map (fun r => Outcome.record (Jaspar16.expect A r)) ++ [Outcome.done] :=
  Jaspar.roundTrip_of (Jaspar16.formatOK hA) grow sched rs hwf

theorem alphabets_lettersOK : dna.LettersOK ∧ protein.LettersOK := ⟨dna_lettersOK, protein_lettersOK⟩

/-- permuted symbol lines (T, A, G: `C` and `N` absent), two motifs -/
def demo16 : List Jaspar16.Src :=
  [{ id := [0x4D], description := none, cols := [(2, [5, 6]), (0, [1, 2]), (3, [4294967295, 0])] },
   { id := [0x58], description := some [0x79], cols := [(1, [9])] }]

example : ∀ r ∈ demo16, Jaspar16.WF dna r := by decide

example : outcomes (Jaspar.next (Jaspar16.record dna) Jaspar.growAmortized) 3
    (Jaspar.new Jaspar.growAmortized [4, 1] (Jaspar16.render dna demo16))
      = demo16.map (fun r => Outcome.record (Jaspar16.expect dna r)) ++ [Outcome.done] :=
  jaspar16_round_trip dna dna_lettersOK _ _ demo16 (by decide)

/-- **UniPROBE round trip.**  For every scalar type and conversion `conv` of float lexemes (the
    driver's instance is IEEE `f32` with `str::parse`), every frequency test `freqOk`, every list of
    well-formed motifs (symbol lines in any order, any non-empty duplicate-free subset of the
    alphabet, plain decimal lexemes `digits[.digits]` that `conv` accepts, rows accepted by
    `freqOk`) and every chunk schedule, the reader returns exactly those motifs, in order, with the
    value of every lexeme in the row of its position and the column of its symbol, then the end. -/
theorem uniprobe_round_trip {α : Type} (A : Alphabet) (hA : A.LettersOK) (hB : Uniprobe.LettersNotBlank A)
    (conv : Bytes → Option α) (zero : α) (freqOk : Mat α A.K → Bool) (sched : List Nat)
    (rs : List Uniprobe.Src) (hwf : ∀ r ∈ rs, Uniprobe.WF A conv zero freqOk r) :
    outcomes (Uniprobe.next A conv zero freqOk) (rs.length + 1) (Uniprobe.new sched (Uniprobe.render A rs))
      = rs.map (fun r => Outcome.record (Uniprobe.expect A conv zero r)) ++ [Outcome.done] :=
  Uniprobe.roundTrip A conv zero freqOk hA hB sched rs hwf

theorem alphabets_lettersNotBlank : Uniprobe.LettersNotBlank dna ∧ Uniprobe.LettersNotBlank protein :=
  ⟨Uniprobe.dna_lettersNotBlank, Uniprobe.protein_lettersNotBlank⟩

/-- a lexeme is a fraction of 1000 here: `conv` reads `0.xyz` as `xyz` -/
def demoConv (lex : Bytes) : Option Nat :=
  match lex with
  | [0x30, 0x2E, a, b, c] => some ((a.toNat - 48) * 100 + (b.toNat - 48) * 10 + (c.toNat - 48))
  | _ => none

def demoU : List Uniprobe.Src :=
  [{ id := [0x4D, 0x31], cols := [(2, [[0x30, 0x2E, 0x32, 0x35, 0x30]]), (0, [[0x30, 0x2E, 0x37, 0x35, 0x30]])] }]

example : ∀ r ∈ demoU, Uniprobe.WF dna demoConv 0 (fun _ => true) r := by decide

/-- **TRANSFAC round trip.**  A record is a list of items — `AC`, `ID`, `NA`, `DE` lines in any
    order and multiplicity (a later line overrides an earlier one, as in the parser), `XX` lines,
    `P0` blocks with the symbols in any order / any duplicate-free subset — closed by `//`.  For
    every scalar type and conversion of float lexemes, every list of well-formed records and every
    chunk schedule, `Reader::new` succeeds and the reader returns exactly those records, in order
    (accession / id / name / description as written, every value in the row of its position and
    the column of its symbol, other columns zero, no matrix when there is no `P0` block), then the
    end of input. -/
theorem transfac_round_trip {α : Type} (A : Alphabet) (hA : A.LettersOK) (hB : Uniprobe.LettersNotBlank A)
    (conv : Bytes → Option α) (zero : α) (sched : List Nat) (rs : List (List Transfac.Item))
    (hwf : ∀ r ∈ rs, ∀ it ∈ r, Transfac.WFItem A conv it) :
    ∃ s0, Transfac.new sched (Transfac.render A rs) = .ok s0 ∧
      outcomes (Transfac.next A conv zero) (rs.length + 1) s0
        = rs.map (fun r => Outcome.record (Transfac.expect A conv zero r)) ++ [Outcome.done] :=
  Transfac.roundTrip A conv zero hA hB sched rs hwf

/-- two records: one with permuted symbols (T, A) and a description, one without matrix -/
def demoT : List (List Transfac.Item) :=
  [[.ac [0x4D, 0x31], .xx, .de [0x61, 0x20, 0x62],
    .matrix [2, 0] [[[0x30, 0x2E, 0x32, 0x35, 0x30], [0x30, 0x2E, 0x37, 0x35, 0x30]]], .xx],
   [.id [0x58]]]

example : ∀ r ∈ demoT, ∀ it ∈ r, Transfac.WFItem dna demoConv it := by decide

end C14
end LMV
