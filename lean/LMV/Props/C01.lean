/-
  C01 — Every backend computes the defined PSSM score at every position.

  §A the definition (`windowScore`, over any carrier); §B the generic backend computes it; §C exact
  arithmetic; §D the SIMD backends equal the generic backend, cell for cell, over any carrier (AVX2
  with no law about `add`, SSE2 with the single law `add x zero = x`), on a row range inside the
  sequence rows and, panics included, on any row range; §E every pipeline, and the `u8` accumulation
  as the sum capped at 255 (group (4) for `u8`); §F the rounding-error lemma; §G examples.  The
  theorem groups (1)–(6) are those of DESIGN.md §7 C01.
-/
import LMV.Lemmas.ScoreAvx2
import LMV.Lemmas.ScoreSse2
import LMV.Props.C04
import Mathlib.Algebra.Order.Ring.Abs
import Mathlib.Tactic.Ring
import Mathlib.Tactic.Linarith

namespace LMV
namespace C01

open Score Striped C04

variable {α : Type} {C K : Nat}

/-! ## §A  the definition -/

/-- the score of the window starting at position `i` of the sequence `s` (read with the wildcard
    `N` past its end), in scalar order: `((zero + m[0][s⟦i⟧]) + m[1][s⟦i+1⟧]) + … + m[M-1][s⟦i+M-1⟧]`.
    Nothing is assumed about `add`: for `f32` this is the IEEE sum as executed, including `-inf`. -/
def windowScore (zero : α) (add : α → α → α) (pssm : Mat α K) (N : Nat) (s : List Nat) (i : Nat) : α :=
  cellSum zero add pssm fun j => pad N s (i + j)

/-- the terms of the window at position `i`: `m[j][s⟦i+j⟧]` for `j < M` -/
def windowTerms (zero : α) (pssm : Mat α K) (N : Nat) (s : List Nat) (i : Nat) : List α :=
  (List.range pssm.rows).map fun j => pssm.getD j (pad N s (i + j)) zero

theorem windowScore_eq_foldl (zero : α) (add : α → α → α) (pssm : Mat α K) (N : Nat) (s : List Nat)
    (i : Nat) :
    windowScore zero add pssm N s i = List.foldl add zero (windowTerms zero pssm N s i) := by
  unfold windowScore cellSum windowTerms
  rw [List.foldl_map]

/-! ## §B  the generic backend -/

/-- every cell of the sequence matrix is a symbol index of the alphabet (in the Rust this is the
    type of the cells: `A::Symbol`, an enum with `K` variants stored in one byte) -/
def SymOK (K : Nat) (seq : Striped C) : Prop :=
  ∀ r c, r < seq.data.rows → c < C → seq.data.getD r c 0 < K

theorem symOK_of_inv (N : Nat) (seq : Striped C) (s : List Nat) (inv : Inv N seq s)
    (hs : ∀ x ∈ s, x < K) (hN : N < K) : SymOK K seq := by
  intro r c hr hc
  -- the scoring models read the sequence matrix with `getD … 0`, `Inv` and the striping models with
  -- `get`: the same read, `default : Nat` being `0`
  have e : seq.data.getD r c 0 = seq.data.get r c := rfl
  rw [e, inv.cell r c (by rw [← inv.rows]; exact hr) hc]
  exact pad_lt N s hs hN _

theorem scoreRowsGeneric_ok (zero : α) (add : α → α → α) (pssm : Mat α K) (seq : Striped C)
    (a b : Nat) (sc : Scores α C) (hsym : SymOK K seq)
    (hexit : ¬ (seq.length < pssm.rows ∨ b ≤ a)) (hrows : b + (pssm.rows - 1) ≤ seq.data.rows) :
    scoreRowsGeneric zero add pssm seq a b sc =
      .ok ⟨scanRows zero add pssm seq.data a (b - a) (sc.data.resize (b - a) zero),
        seq.length + 1 - pssm.rows⟩ := by
  rw [scoreRowsGeneric_scan zero add pssm seq a b sc hexit,
    rowsGeneric_ok zero add pssm seq.data a (b - a) _ fun k j col hk hj hcol =>
      ⟨scanRow_lt hk hj hrows, hsym _ _ (scanRow_lt hk hj hrows) hcol⟩]
  rfl

/-- what a correct `score_rows_into(pssm, seq, a..b, buf)` returns for the sequence `s`: the conclusion
    of `scoreRowsGeneric_spec`, under a name for the statements of §E -/
def RowsSpec (zero : α) (add : α → α → α) (pssm : Mat α K) (N : Nat) (s : List Nat) (C a b : Nat)
    (res : Except String (Scores α C)) : Prop :=
  ∃ sc, res = .ok sc ∧
    if s.length < pssm.rows ∨ b ≤ a then sc.data.rows = 0 ∧ sc.maxIndex = 0
    else sc.data.rows = b - a ∧ sc.maxIndex = s.length + 1 - pssm.rows ∧
      ∀ r c, a ≤ r → r < b → c < C →
        sc.data.getD (r - a) c zero = windowScore zero add pssm N s (c * seqRowsOf C s.length + r)

/-- **C01 (3a) + (6), generic backend.**  Under the striping invariant of C04 (established by
    `stripe_into` on any backend and preserved by every `configure`/`configure_wrap` history), with
    at least `M − 1` wrap rows and a row range ending inside the sequence rows, the trait-default
    `score_rows_into` does not panic, and
      * yields no rows and `max_index = 0` when `L < M` or the range is empty,
      * otherwise `b − a` rows, `max_index = L + 1 − M`, and cell `(r − a, c)` holds the scalar-order
        score of the window at position `c·R + r` — for EVERY carrier and `add` (no law used). -/
theorem scoreRowsGeneric_spec (_hC : 0 < C) (zero : α) (add : α → α → α) (pssm : Mat α K) (N : Nat)
    (seq : Striped C) (s : List Nat) (inv : Inv N seq s) (hs : ∀ x ∈ s, x < K) (hN : N < K)
    (hW : pssm.rows - 1 ≤ seq.wrap) (a b : Nat) (hb : b ≤ seqRowsOf C s.length) (sc0 : Scores α C) :
    ∃ sc, scoreRowsGeneric zero add pssm seq a b sc0 = .ok sc ∧
      if s.length < pssm.rows ∨ b ≤ a then sc.data.rows = 0 ∧ sc.maxIndex = 0
      else sc.data.rows = b - a ∧ sc.maxIndex = s.length + 1 - pssm.rows ∧
        ∀ r c, a ≤ r → r < b → c < C →
          sc.data.getD (r - a) c zero = windowScore zero add pssm N s (c * seqRowsOf C s.length + r) := by
  by_cases hexit : s.length < pssm.rows ∨ b ≤ a
  · refine ⟨_, scoreRowsGeneric_exit zero add pssm seq a b sc0 (inv.len ▸ hexit), ?_⟩
    rw [if_pos hexit]
    exact ⟨by simp [resize], rfl⟩
  · refine ⟨_, scoreRowsGeneric_ok zero add pssm seq a b sc0 (symOK_of_inv N seq s inv hs hN)
      (inv.len ▸ hexit) (by rw [inv.rows]; exact Nat.add_le_add hb hW), ?_⟩
    rw [if_neg hexit]
    have hp := scanRows_patch zero add pssm seq.data a (b - a) (sc0.data.resize (b - a) zero)
    refine ⟨hp.rows.trans (Mat.rows_resize ..), by rw [inv.len], fun r c har hrb hc => ?_⟩
    have hra : r - a < b - a := Nat.sub_lt_sub_right har hrb
    rw [hp.hit (r - a) c (by rw [Mat.rows_resize]; exact hra) hc hra]
    apply cellSum_congr
    intro j hj
    rw [Nat.add_sub_cancel' har]
    exact lookahead N seq s inv r j c (Nat.lt_of_lt_of_le hrb hb)
      ((Nat.le_sub_one_of_lt hj).trans hW) hc

/-- **C01 (6), generic backend**: no panic in contract (`M` may even be 0 here; the SIMD wrappers
    need `M ≥ 1`, see §D) -/
theorem scoreRowsGeneric_no_panic (hC : 0 < C) (zero : α) (add : α → α → α) (pssm : Mat α K) (N : Nat)
    (seq : Striped C) (s : List Nat) (inv : Inv N seq s) (hs : ∀ x ∈ s, x < K) (hN : N < K)
    (hW : pssm.rows - 1 ≤ seq.wrap) (a b : Nat) (hb : b ≤ seqRowsOf C s.length) (sc0 : Scores α C) :
    ∀ e, scoreRowsGeneric zero add pssm seq a b sc0 ≠ .error e := by
  intro e h
  obtain ⟨sc, hsc, _⟩ := scoreRowsGeneric_spec hC zero add pssm N seq s inv hs hN hW a b hb sc0
  rw [hsc] at h; cases h

/-- **what a full scan returns**, through ANY `score_rows_into` that agrees with the generic one on
    the full row range (§D provides that for SSE2, AVX2 and every dispatcher arm): `score` =
    `score_into` on an empty buffer, rows `0 .. R`, does not panic; it yields no rows when `L < M`,
    otherwise `R` rows, `max_index = L + 1 − M`, and cell `(r, c)` holds the window score of position
    `c·R + r`.  The condition reads `L < M ∨ L = 0` because `M = 0` is allowed here: then the empty
    sequence (`R = 0`, an empty row range) is the one case in which `L < M` fails and the scan still
    exits early; with `M ≥ 1` it is `L < M`. -/
theorem scoreFull_spec (hC : 0 < C) (zero : α) (add : α → α → α) (pssm : Mat α K) (N : Nat)
    (seq : Striped C) (s : List Nat) (inv : Inv N seq s) (hs : ∀ x ∈ s, x < K) (hN : N < K)
    (hW : pssm.rows - 1 ≤ seq.wrap)
    (rowsInto : Nat → Nat → Scores α C → Except String (Scores α C))
    (heq : ∀ sc, rowsInto 0 (seq.data.rows - seq.wrap) sc =
      scoreRowsGeneric zero add pssm seq 0 (seq.data.rows - seq.wrap) sc) :
    ∃ sc, scoreFull rowsInto seq = .ok sc ∧
      if s.length < pssm.rows ∨ s.length = 0 then sc.data.rows = 0 ∧ sc.maxIndex = 0
      else sc.data.rows = seqRowsOf C s.length ∧ sc.maxIndex = s.length + 1 - pssm.rows ∧
        ∀ r c, r < seqRowsOf C s.length → c < C →
          sc.data.getD r c zero = windowScore zero add pssm N s (c * seqRowsOf C s.length + r) := by
  unfold scoreFull scoreInto
  rw [if_neg (by rw [inv.rows]; exact Nat.not_lt_of_le (Nat.le_add_left _ _)), heq, inv.seqRows]
  obtain ⟨sc, hsc, hspec⟩ := scoreRowsGeneric_spec hC zero add pssm N seq s inv hs hN hW 0
    (seqRowsOf C s.length) (Nat.le_refl _) Score.empty
  refine ⟨sc, hsc, ?_⟩
  -- the row range `0 .. R` is empty exactly when the sequence is
  have hR0 : seqRowsOf C s.length ≤ 0 ↔ s.length = 0 :=
    ⟨fun h => Nat.eq_zero_of_not_pos fun hL => Nat.not_lt_of_le h (seqRowsOf_pos hC hL),
      fun h => by rw [h]; exact Nat.le_of_eq (seqRowsOf_zero hC)⟩
  simpa only [hR0, Nat.sub_zero, Nat.zero_le, true_implies] using hspec

/-- **the values returned, on every `f32` pipeline**: `score` (full scan) then `unstripe()` gives
    exactly `L + 1 − M` values, value `i` being the window score at position `i`; stated for any
    `score_rows_into` that agrees with the generic one on the full row range, which §D provides for
    SSE2, AVX2 and every dispatcher arm. -/
theorem score_unstripe_any (hC : 0 < C) (zero : α) (add : α → α → α) (pssm : Mat α K) (N : Nat)
    (seq : Striped C) (s : List Nat) (inv : Inv N seq s) (hs : ∀ x ∈ s, x < K) (hN : N < K)
    (hM : 1 ≤ pssm.rows) (hW : pssm.rows - 1 ≤ seq.wrap)
    (rowsInto : Nat → Nat → Scores α C → Except String (Scores α C))
    (heq : ∀ sc, rowsInto 0 (seq.data.rows - seq.wrap) sc =
      scoreRowsGeneric zero add pssm seq 0 (seq.data.rows - seq.wrap) sc) :
    ∃ sc, scoreFull rowsInto seq = .ok sc ∧
      (unstripe zero sc).length = s.length + 1 - pssm.rows ∧
      ∀ i, i < s.length + 1 - pssm.rows →
        (unstripe zero sc)[i]? = some (windowScore zero add pssm N s i) := by
  obtain ⟨sc, hsc, hspec⟩ := scoreFull_spec hC zero add pssm N seq s inv hs hN hW rowsInto heq
  refine ⟨sc, hsc, ?_⟩
  have hwin : s.length + 1 - pssm.rows ≤ s.length := Nat.sub_le_of_le_add (Nat.add_le_add_left hM _)
  -- `iterEnd` is `min max_index (rows · C)`
  unfold unstripe iterEnd
  split at hspec
  · next h =>
    rw [hspec.2, Nat.zero_min, Nat.sub_eq_zero_of_le (h.elim id fun h0 => h0.trans_lt hM)]
    exact ⟨rfl, fun i hi => absurd hi (Nat.not_lt_zero i)⟩
  · rw [hspec.1, hspec.2.1, Nat.min_eq_left (hwin.trans (seqRowsOf_mul_ge hC s.length)),
      List.length_map, List.length_range]
    refine ⟨rfl, fun i hi => ?_⟩
    obtain ⟨hrow, hcol, e⟩ := seqRowsOf_coord hC (Nat.lt_of_lt_of_le hi hwin)
    rw [List.getElem?_map, List.getElem?_range hi, Option.map_some, hspec.2.2 _ _ hrow hcol, e]

/-- **C01 (3b): the values returned.**  A full scan (`score` = `score_into` on an empty buffer, rows
    `0 .. R`) followed by `unstripe()` returns exactly `L + 1 − M` values (none when `L < M`), and
    value `i` is the scalar-order score of the window at position `i`. -/
theorem score_unstripe (hC : 0 < C) (zero : α) (add : α → α → α) (pssm : Mat α K) (N : Nat)
    (seq : Striped C) (s : List Nat) (inv : Inv N seq s) (hs : ∀ x ∈ s, x < K) (hN : N < K)
    (hM : 1 ≤ pssm.rows) (hW : pssm.rows - 1 ≤ seq.wrap) :
    ∃ sc, scoreFull (scoreRowsGeneric zero add pssm seq) seq = .ok sc ∧
      (unstripe zero sc).length = s.length + 1 - pssm.rows ∧
      ∀ i, i < s.length + 1 - pssm.rows →
        (unstripe zero sc)[i]? = some (windowScore zero add pssm N s i) :=
  score_unstripe_any hC zero add pssm N seq s inv hs hN hM hW _ fun _ => rfl

/-- **C01 (3b')**: indexing the result of a full scan, `scores[i]` for `i ≤ L − M`, does not panic and
    is the window score at position `i` (`offset(row, col) = col · rows + row` is that position). -/
theorem score_index (hC : 0 < C) (zero : α) (add : α → α → α) (pssm : Mat α K) (N : Nat)
    (seq : Striped C) (s : List Nat) (inv : Inv N seq s) (hs : ∀ x ∈ s, x < K) (hN : N < K)
    (hW : pssm.rows - 1 ≤ seq.wrap) :
    ∃ sc, scoreFull (scoreRowsGeneric zero add pssm seq) seq = .ok sc ∧
      ∀ i, i < s.length + 1 - pssm.rows → i < s.length →
        Score.index zero sc i = .ok (windowScore zero add pssm N s i) ∧
        offset sc (i % sc.data.rows) (i / sc.data.rows) = i := by
  obtain ⟨sc, hsc, hspec⟩ := scoreFull_spec hC zero add pssm N seq s inv hs hN hW _ fun _ => rfl
  refine ⟨sc, hsc, fun i hi hiL => ?_⟩
  -- `i` is a window, so `M ≤ L`, and a position, so `L ≠ 0`
  have hLM : ¬ s.length < pssm.rows := fun h => Nat.not_lt_zero i (hi.trans_eq (Nat.sub_eq_zero_of_le h))
  have hL0 : s.length ≠ 0 := fun h => Nat.not_lt_zero i (hiL.trans_eq h)
  rw [if_neg (not_or.mpr ⟨hLM, hL0⟩)] at hspec
  obtain ⟨hrow, hcol, e⟩ := seqRowsOf_coord hC hiL
  constructor
  · unfold Score.index
    rw [hspec.1, if_neg (Nat.ne_of_gt (Nat.zero_lt_of_lt hrow)), if_pos ⟨hrow, hcol⟩,
      hspec.2.2 _ _ hrow hcol, e]
  · unfold offset
    rw [hspec.1, e]

/-- **C01 (3c)**: `ScoringMatrix::score_position(seq, i)` for a position `i ≤ L − M` does not panic
    and returns the same scalar-order score. -/
theorem scorePosition_spec (hC : 0 < C) (zero : α) (add : α → α → α) (pssm : Mat α K) (N : Nat)
    (seq : Striped C) (s : List Nat) (inv : Inv N seq s) (hs : ∀ x ∈ s, x < K)
    (i : Nat) (hi : i + pssm.rows ≤ s.length) :
    scorePosition zero add pssm seq i = .ok (windowScore zero add pssm N s i) := by
  unfold scorePosition windowScore cellSum
  apply foldE_ok
  intro v j hj
  have hj : i + j < s.length := Nat.lt_of_lt_of_le (Nat.add_lt_add_left (List.mem_range.mp hj) i) hi
  rw [index_eq hC N seq s inv (i + j) hj]
  have hlt : s.getD (i + j) N < K := pad_lt_of_lt N s hs hj
  simp only [hlt, if_true, pad]

/-! ## §C  exact arithmetic -/

theorem sum_eq_bot_iff (l : List (WithBot ℚ)) : l.sum = ⊥ ↔ ∃ x ∈ l, x = ⊥ := by
  induction l with
  | nil => exact iff_of_false WithBot.zero_ne_bot (by rintro ⟨_, h, _⟩; cases h)
  | cons x xs ih =>
    rw [List.sum_cons, WithBot.add_eq_bot, ih]
    simp only [List.mem_cons, exists_eq_or_imp]

/-- **C01 (4)**: over exact scores with an absorbing `−∞` (`WithBot ℚ`: `⊥ + x = ⊥`), the scalar-order
    score is the sum over `j` of `matrix[j][sequence[i+j]]` … -/
theorem windowScore_exact (pssm : Mat (WithBot ℚ) K) (N : Nat) (s : List Nat) (i : Nat) :
    windowScore 0 (· + ·) pssm N s i = (windowTerms 0 pssm N s i).sum := by
  rw [windowScore_eq_foldl, List.sum_eq_foldl]

/-- … and it is `−∞` as soon as (and only if) one term is -/
theorem windowScore_eq_bot_iff (pssm : Mat (WithBot ℚ) K) (N : Nat) (s : List Nat) (i : Nat) :
    windowScore 0 (· + ·) pssm N s i = ⊥ ↔ ∃ j, j < pssm.rows ∧ pssm.getD j (pad N s (i + j)) 0 = ⊥ := by
  rw [windowScore_exact, sum_eq_bot_iff, windowTerms]
  simp only [List.mem_map, List.mem_range, exists_exists_and_eq_and]

/-! ## §D  the SIMD backends equal the generic backend -/

/-! ### the wrapper around a kernel that scans -/

/-- the kernel `run` of a SIMD wrapper fills the rows of the scan, like the generic loops, as soon as
    the symbols it looks up are in the alphabet -/
def Scans (zero : α) (add : α → α → α) (pssm : Mat α K) (seq : Striped C) (a b : Nat)
    (run : Mat α C → Mat α C) : Prop :=
  (∀ k j col, k < b - a → j < pssm.rows → col < C → seq.data.getD (a + k + j) col 0 < K) →
    ∀ d, Mat.Patch d (run d) (fun r _ => r < b - a) (scanCell zero add pssm seq.data a)

/-- the guards of the SIMD wrappers are those of the generic code once `M ≥ 1`, `wrap ≥ M − 1` and
    the look-ahead rows of the range exist (or the scan exits early); what remains is the kernel
    against the generic loops -/
theorem simdWrapper_in_range (zero : α) (add : α → α → α) (pssm : Mat α K) (seq : Striped C)
    (a b : Nat) (sc : Scores α C) (run : Mat α C → Mat α C)
    (hM : 1 ≤ pssm.rows) (hW : pssm.rows - 1 ≤ seq.wrap) (hsym : SymOK K seq)
    (hrun : Scans zero add pssm seq a b run)
    (hin : (seq.length < pssm.rows ∨ b ≤ a) ∨ b + (pssm.rows - 1) ≤ seq.data.rows) :
    simdWrapper zero pssm seq a b sc run = scoreRowsGeneric zero add pssm seq a b sc := by
  fun_cases simdWrapper zero pssm seq a b sc run with
  | case1 h => exact absurd h (Nat.ne_of_gt hM)  -- `pssm.rows() - 1` overflows
  | case2 _ h => exact absurd h (Nat.not_lt_of_le hW)  -- not enough wrap rows
  | case3 _ _ hexit => exact (scoreRowsGeneric_exit zero add pssm seq a b sc hexit).symm  -- the early exit
  | case4 _ _ hexit h =>
    -- the row-range check fails
    have hrows := hin.resolve_left hexit
    exact absurd h (not_or.mpr ⟨Nat.not_lt_of_le ((Nat.le_add_right _ _).trans hrows),
      Nat.not_lt_of_le (Nat.le_sub_of_add_le' hrows)⟩)
  | case5 _ _ hexit =>
    -- the kernel runs
    have hrows := hin.resolve_left hexit
    rw [scoreRowsGeneric_ok zero add pssm seq a b sc hsym hexit hrows,
      ← (hrun (fun k j col hk hj hcol => hsym _ _ (scanRow_lt hk hj hrows) hcol)
        (sc.data.resize (b - a) zero)).unique zero (scanRows_patch zero add pssm seq.data a (b - a) _)]
    rfl

/-! ### the kernels scan -/

/-- `permutevar8x32` reads entry `idx % 8` of the row; a symbol `< K ≤ 8` is its own remainder -/
theorem scans_permute (zero : α) (add : α → α → α) (pssm : Mat α K) (hK : K ≤ 8) (seq : Striped 32)
    (a b : Nat) : Scans zero add pssm seq a b (Avx2.kernel Avx2.permuteTables zero add
      (Avx2.lookupPermute zero pssm) pssm.rows seq.data a (b - a)) :=
  fun hsym d => Avx2.kernel_patch _ Avx2.permute_table zero add pssm _
    (fun j sym => pssm.getD j (sym % 8) zero) (fun _ _ _ => rfl)
    (fun j sym hs => by rw [Nat.mod_eq_of_lt (Nat.lt_of_lt_of_le hs hK)]) seq.data a (b - a) d hsym

/-- the gather reads the element at the sign-extended 32-bit index; a symbol `< K ≤ 256` is a
    non-negative index and its own sign extension -/
theorem scans_gather (zero : α) (add : α → α → α) (pssm : Mat α K) (hK : K ≤ 256) (seq : Striped 32)
    (a b : Nat) : Scans zero add pssm seq a b (Avx2.kernel Avx2.gatherTables zero add
      (Avx2.lookupGather zero pssm) pssm.rows seq.data a (b - a)) :=
  fun hsym d => Avx2.kernel_patch _ Avx2.gather_table zero add pssm _
    (fun j sym => if 0 ≤ Isa.sext32 sym then pssm.getD j (Isa.sext32 sym).toNat zero else zero)
    (fun _ _ _ => rfl) (fun j sym hs => by
      rw [sext32_small sym (hs.trans_le (hK.trans (by decide)))]
      simp only [Int.ofNat_eq_natCast, Int.natCast_nonneg, if_true, Int.toNat_natCast])
    seq.data a (b - a) d hsym

theorem scans_u8 (zero : α) (add : α → α → α) (pssm : Mat α K) (hK : K ≤ 16) (seq : Striped 32)
    (a b : Nat) : Scans zero add pssm seq a b (Avx2.kernelU8 zero add pssm seq.data a (b - a)) :=
  fun h d => Avx2.kernelU8_patch zero add pssm hK seq.data a (b - a) d h

theorem scans_sse2 (zero : α) (add : α → α → α) (hz : ∀ x, add x zero = x) (pssm : Mat α K)
    (hC : 16 ∣ C) (seq : Striped C) (a b : Nat) :
    Scans zero add pssm seq a b (Sse2.kernel zero add pssm seq.data a (b - a)) :=
  fun h d => Sse2.kernel_patch Sse2.sse2_table zero add hz pssm hC seq.data a (b - a) d h

/-! ### a row range inside the sequence rows: the same result -/

theorem simdWrapper_eq_generic (zero : α) (add : α → α → α) (pssm : Mat α K) (seq : Striped C)
    (a b : Nat) (sc : Scores α C) (run : Mat α C → Mat α C)
    (hM : 1 ≤ pssm.rows) (hW : pssm.rows - 1 ≤ seq.wrap) (hb : b ≤ seq.data.rows - seq.wrap)
    (hsym : SymOK K seq) (hrun : Scans zero add pssm seq a b run) :
    simdWrapper zero pssm seq a b sc run = scoreRowsGeneric zero add pssm seq a b sc :=
  simdWrapper_in_range zero add pssm seq a b sc run hM hW hsym hrun <| by
    -- without sequence rows the range is empty; otherwise its look-ahead rows are wrap rows
    rcases Nat.le_total seq.wrap seq.data.rows with h | h
    · exact .inr ((Nat.add_le_add_left hW b).trans (Nat.add_le_of_le_sub h hb))
    · exact .inl (.inr ((hb.trans (Nat.sub_eq_zero_of_le h).le).trans (Nat.zero_le a)))

/-- **C01 (1), AVX2 permute kernel (`K ≤ 8`, DNA).**  For EVERY carrier, `zero` and `add` (no law:
    the statement holds for IEEE `f32` as executed, `-inf`, rounding and all), every motif of
    `M ≥ 1` rows, every sequence matrix with at least `M − 1` wrap rows, every row range ending
    inside the sequence rows and every previous content of the score buffer, the AVX2 wrapper +
    kernel returns exactly what the generic code returns: same panic/no-panic, same `max_index`,
    same matrix cell for cell.  The lane bookkeeping (shuffle masks → dword lanes → look-up →
    `permute2f128` → store offsets) is discharged by `Avx2.permute_table`, a kernel evaluation of the
    complete 32-column table regenerated from avx2.rs. -/
theorem scorePermute_eq_generic (zero : α) (add : α → α → α) (pssm : Mat α K) (hK : K ≤ 8)
    (seq : Striped 32) (a b : Nat) (sc : Scores α 32)
    (hM : 1 ≤ pssm.rows) (hW : pssm.rows - 1 ≤ seq.wrap) (hb : b ≤ seq.data.rows - seq.wrap)
    (hsym : SymOK K seq) :
    Avx2.scorePermute zero add pssm seq a b sc = scoreRowsGeneric zero add pssm seq a b sc := by
  unfold Avx2.scorePermute
  rw [if_neg (not_not_intro hK)]
  exact simdWrapper_eq_generic zero add pssm seq a b sc _ hM hW hb hsym (scans_permute zero add pssm hK seq a b)

/-- **C01 (1), AVX2 gather kernel (any alphabet whose symbols are bytes, e.g. protein `K = 21`).** -/
theorem scoreGather_eq_generic (zero : α) (add : α → α → α) (pssm : Mat α K) (hK : K ≤ 256)
    (seq : Striped 32) (a b : Nat) (sc : Scores α 32)
    (hM : 1 ≤ pssm.rows) (hW : pssm.rows - 1 ≤ seq.wrap) (hb : b ≤ seq.data.rows - seq.wrap)
    (hsym : SymOK K seq) :
    Avx2.scoreGather zero add pssm seq a b sc = scoreRowsGeneric zero add pssm seq a b sc :=
  simdWrapper_eq_generic zero add pssm seq a b sc _ hM hW hb hsym (scans_gather zero add pssm hK seq a b)

/-- `Avx2::score_f32_rows_into` (permute when `K ≤ 8`, gather otherwise) = generic -/
theorem scoreF32Avx2_eq_generic (zero : α) (add : α → α → α) (pssm : Mat α K) (hK : K ≤ 256)
    (seq : Striped 32) (a b : Nat) (sc : Scores α 32)
    (hM : 1 ≤ pssm.rows) (hW : pssm.rows - 1 ≤ seq.wrap) (hb : b ≤ seq.data.rows - seq.wrap)
    (hsym : SymOK K seq) :
    Avx2.scoreF32 zero add pssm seq a b sc = scoreRowsGeneric zero add pssm seq a b sc := by
  fun_cases Avx2.scoreF32 zero add pssm seq a b sc with
  | case1 h =>
    -- `h : K ≤ Gen.Avx2Score.permuteMaxK`, the threshold as extracted from the source: it is `8`
    exact scorePermute_eq_generic zero add pssm (show K ≤ 8 from h) seq a b sc hM hW hb hsym
  | case2 => exact scoreGather_eq_generic zero add pssm hK seq a b sc hM hW hb hsym

/-- **C01 (1), AVX2 `u8` shuffle kernel (`K ≤ 16`).**  With the SAME lane addition on both sides —
    in particular the saturating `adds_epu8` — the byte-shuffle kernel equals the generic loops;
    every one of the 32 byte lanes is handled (per-128-bit-lane shuffle of the broadcast row). -/
theorem scoreU8_eq_generic (zero : α) (add : α → α → α) (pssm : Mat α K) (hK : K ≤ 16)
    (seq : Striped 32) (a b : Nat) (sc : Scores α 32)
    (hM : 1 ≤ pssm.rows) (hW : pssm.rows - 1 ≤ seq.wrap) (hb : b ≤ seq.data.rows - seq.wrap)
    (hsym : SymOK K seq) :
    Avx2.scoreU8 zero add pssm seq a b sc = scoreRowsGeneric zero add pssm seq a b sc :=
  simdWrapper_eq_generic zero add pssm seq a b sc _ hM hW hb hsym (scans_u8 zero add pssm hK seq a b)

/-- **C01 (2), SSE2 kernel, 16- and 32-column layouts (any multiple of 16).**  With the single law
    `add x zero = x` (the compare-and-mask trick adds `+0.0` for the `K − 1` symbols that do not
    match; IEEE `x + (+0.0) = x` for every `x` except `-0.0`, which is never a partial sum of a fold
    started at `+0.0`), the SSE2 wrapper + kernel returns exactly what the generic code returns.
    The unpack chain and the store offsets are discharged by `Sse2.sse2_table` (kernel evaluation of
    the complete 16-column table regenerated from sse2.rs). -/
theorem scoreSse2_eq_generic (zero : α) (add : α → α → α) (hz : ∀ x, add x zero = x)
    (pssm : Mat α K) (hC : 16 ∣ C) (seq : Striped C) (a b : Nat) (sc : Scores α C)
    (hM : 1 ≤ pssm.rows) (hW : pssm.rows - 1 ≤ seq.wrap) (hb : b ≤ seq.data.rows - seq.wrap)
    (hsym : SymOK K seq) :
    Sse2.score zero add pssm seq a b sc = scoreRowsGeneric zero add pssm seq a b sc :=
  simdWrapper_eq_generic zero add pssm seq a b sc _ hM hW hb hsym
    (scans_sse2 zero add hz pssm hC seq a b)

/-- **every arm of the runtime dispatcher (`f32`)** returns what the generic backend returns -/
theorem dispatchF32_eq_generic (arm : Arm) (zero : α) (add : α → α → α) (hz : ∀ x, add x zero = x)
    (pssm : Mat α K) (hK : K ≤ 256) (seq : Striped 32) (a b : Nat) (sc : Scores α 32)
    (hM : 1 ≤ pssm.rows) (hW : pssm.rows - 1 ≤ seq.wrap) (hb : b ≤ seq.data.rows - seq.wrap)
    (hsym : SymOK K seq) :
    dispatchF32 arm zero add pssm seq a b sc = scoreRowsGeneric zero add pssm seq a b sc := by
  cases arm
  · rfl
  · exact scoreSse2_eq_generic zero add hz pssm (by decide) seq a b sc hM hW hb hsym
  · exact scoreF32Avx2_eq_generic zero add pssm hK seq a b sc hM hW hb hsym

/-- **every arm of the runtime dispatcher (`u8`)**: the AVX2 arm is the generic loop run with the
    lane addition of `adds_epu8`, the other arms ARE the generic loop (with `Accumulate::accumulate`).
    Both are the saturating addition `u8Sat` in the code as it is (see `dispatchU8_all_arms`). -/
theorem dispatchU8_eq_generic (arm : Arm) (zero : α) (add addSat : α → α → α)
    (pssm : Mat α K) (hK : K ≤ 16) (seq : Striped 32) (a b : Nat) (sc : Scores α 32)
    (hM : 1 ≤ pssm.rows) (hW : pssm.rows - 1 ≤ seq.wrap) (hb : b ≤ seq.data.rows - seq.wrap)
    (hsym : SymOK K seq) :
    dispatchU8 arm zero add addSat pssm seq a b sc =
      scoreRowsGeneric zero (if arm = Arm.avx2 then addSat else add) pssm seq a b sc := by
  cases arm
  · rfl
  · rfl
  · exact scoreU8_eq_generic zero addSat pssm hK seq a b sc hM hW hb hsym

/-- with the one saturating addition on both sides, all three `u8` arms return the same thing -/
theorem dispatchU8_all_arms (arm : Arm) (zero : α) (addSat : α → α → α)
    (pssm : Mat α K) (hK : K ≤ 16) (seq : Striped 32) (a b : Nat) (sc : Scores α 32)
    (hM : 1 ≤ pssm.rows) (hW : pssm.rows - 1 ≤ seq.wrap) (hb : b ≤ seq.data.rows - seq.wrap)
    (hsym : SymOK K seq) :
    dispatchU8 arm zero addSat addSat pssm seq a b sc =
      scoreRowsGeneric zero addSat pssm seq a b sc := by
  rw [dispatchU8_eq_generic arm zero addSat addSat pssm hK seq a b sc hM hW hb hsym, ite_self]

/-! ### any row range: the same outcome, panics included

**C01 (1)/(2)/(6), any row range.**  With their row-range check the SIMD wrappers agree with the
generic backend, for `M ≥ 1` and `wrap ≥ M − 1`, on EVERY range `a..b`, also ranges reaching into or
past the wrap rows: each SIMD backend and each dispatcher arm has the same outcome as the generic
backend, the same result matrix and `max_index`, or a panic on both sides (the generic code on its
row index, the wrappers on the explicit check). -/

/-- equal, or both a panic (messages are not compared) -/
def SameOutcome {β : Type} (x y : Except String β) : Prop :=
  x = y ∨ ∃ e₁ e₂, x = .error e₁ ∧ y = .error e₂

theorem simdWrapper_same_outcome (hC : 0 < C) (zero : α) (add : α → α → α) (pssm : Mat α K)
    (seq : Striped C) (a b : Nat) (sc : Scores α C) (run : Mat α C → Mat α C)
    (hM : 1 ≤ pssm.rows) (hW : pssm.rows - 1 ≤ seq.wrap) (hsym : SymOK K seq)
    (hrun : Scans zero add pssm seq a b run) :
    SameOutcome (simdWrapper zero pssm seq a b sc run) (scoreRowsGeneric zero add pssm seq a b sc) := by
  by_cases hin : (seq.length < pssm.rows ∨ b ≤ a) ∨ b + (pssm.rows - 1) ≤ seq.data.rows
  · exact .inl (simdWrapper_in_range zero add pssm seq a b sc run hM hW hsym hrun hin)
  · -- out of range: the wrapper's explicit panic, the generic code's row index (in the last row of
    -- the range, at its last look-ahead row)
    obtain ⟨hexit, hout⟩ := not_or.mp hin
    have hab : a < b := Nat.lt_of_not_le fun h => hexit (.inr h)
    have hcheck : b > seq.data.rows ∨ seq.data.rows - b < pssm.rows - 1 :=
      (Nat.lt_or_ge seq.data.rows b).imp_right fun h => Nat.sub_lt_left_of_lt_add h (Nat.lt_of_not_le hout)
    obtain ⟨e, he⟩ := rowsGeneric_error hC zero add pssm seq.data a (b - a)
      (sc.data.resize (b - a) zero) (b - a - 1) (pssm.rows - 1)
      (Nat.sub_one_lt (Nat.sub_ne_zero_of_lt hab)) (Nat.sub_one_lt (Nat.ne_of_gt hM))
      (scanRow_ge hab (Nat.lt_of_not_le hout))
    refine .inr ⟨"row-range", e, ?_, ?_⟩
    · unfold simdWrapper
      rw [if_neg (Nat.ne_of_gt hM), if_neg (Nat.not_lt_of_le hW), if_neg hexit, if_pos hcheck]
    · rw [scoreRowsGeneric_scan zero add pssm seq a b sc hexit, he]
      rfl

theorem scorePermute_same_outcome (zero : α) (add : α → α → α) (pssm : Mat α K) (hK : K ≤ 8)
    (seq : Striped 32) (a b : Nat) (sc : Scores α 32)
    (hM : 1 ≤ pssm.rows) (hW : pssm.rows - 1 ≤ seq.wrap) (hsym : SymOK K seq) :
    SameOutcome (Avx2.scorePermute zero add pssm seq a b sc)
      (scoreRowsGeneric zero add pssm seq a b sc) := by
  unfold Avx2.scorePermute
  rw [if_neg (not_not_intro hK)]
  exact simdWrapper_same_outcome (by decide) zero add pssm seq a b sc _ hM hW hsym
    (scans_permute zero add pssm hK seq a b)

theorem scoreGather_same_outcome (zero : α) (add : α → α → α) (pssm : Mat α K) (hK : K ≤ 256)
    (seq : Striped 32) (a b : Nat) (sc : Scores α 32)
    (hM : 1 ≤ pssm.rows) (hW : pssm.rows - 1 ≤ seq.wrap) (hsym : SymOK K seq) :
    SameOutcome (Avx2.scoreGather zero add pssm seq a b sc)
      (scoreRowsGeneric zero add pssm seq a b sc) :=
  simdWrapper_same_outcome (by decide) zero add pssm seq a b sc _ hM hW hsym
    (scans_gather zero add pssm hK seq a b)

theorem scoreU8_same_outcome (zero : α) (add : α → α → α) (pssm : Mat α K) (hK : K ≤ 16)
    (seq : Striped 32) (a b : Nat) (sc : Scores α 32)
    (hM : 1 ≤ pssm.rows) (hW : pssm.rows - 1 ≤ seq.wrap) (hsym : SymOK K seq) :
    SameOutcome (Avx2.scoreU8 zero add pssm seq a b sc)
      (scoreRowsGeneric zero add pssm seq a b sc) :=
  simdWrapper_same_outcome (by decide) zero add pssm seq a b sc _ hM hW hsym
    (scans_u8 zero add pssm hK seq a b)

theorem scoreSse2_same_outcome (zero : α) (add : α → α → α) (hz : ∀ x, add x zero = x)
    (pssm : Mat α K) (hC0 : 0 < C) (hC : 16 ∣ C) (seq : Striped C) (a b : Nat) (sc : Scores α C)
    (hM : 1 ≤ pssm.rows) (hW : pssm.rows - 1 ≤ seq.wrap) (hsym : SymOK K seq) :
    SameOutcome (Sse2.score zero add pssm seq a b sc)
      (scoreRowsGeneric zero add pssm seq a b sc) :=
  simdWrapper_same_outcome hC0 zero add pssm seq a b sc _ hM hW hsym
    (scans_sse2 zero add hz pssm hC seq a b)

theorem dispatchF32_same_outcome (arm : Arm) (zero : α) (add : α → α → α) (hz : ∀ x, add x zero = x)
    (pssm : Mat α K) (hK : K ≤ 256) (seq : Striped 32) (a b : Nat) (sc : Scores α 32)
    (hM : 1 ≤ pssm.rows) (hW : pssm.rows - 1 ≤ seq.wrap) (hsym : SymOK K seq) :
    SameOutcome (dispatchF32 arm zero add pssm seq a b sc)
      (scoreRowsGeneric zero add pssm seq a b sc) := by
  fun_cases dispatchF32 arm zero add pssm seq a b sc with
  | case1 =>
    fun_cases Avx2.scoreF32 zero add pssm seq a b sc with
    | case1 h => exact scorePermute_same_outcome zero add pssm (show K ≤ 8 from h) seq a b sc hM hW hsym
    | case2 => exact scoreGather_same_outcome zero add pssm hK seq a b sc hM hW hsym
  | case2 => exact scoreSse2_same_outcome zero add hz pssm (by decide) (by decide) seq a b sc hM hW hsym
  | case3 => exact Or.inl rfl

theorem dispatchU8_same_outcome (arm : Arm) (zero : α) (addSat : α → α → α)
    (pssm : Mat α K) (hK : K ≤ 16) (seq : Striped 32) (a b : Nat) (sc : Scores α 32)
    (hM : 1 ≤ pssm.rows) (hW : pssm.rows - 1 ≤ seq.wrap) (hsym : SymOK K seq) :
    SameOutcome (dispatchU8 arm zero addSat addSat pssm seq a b sc)
      (scoreRowsGeneric zero addSat pssm seq a b sc) := by
  cases arm
  · exact Or.inl rfl
  · exact Or.inl rfl
  · exact scoreU8_same_outcome zero addSat pssm hK seq a b sc hM hW hsym

/-! ## §E  every pipeline computes the window score -/

/-- **C01, all `f32` pipelines and lane counts.**  Let the sequence matrix satisfy the striping
    invariant for `s` (any striping backend, any configure history — C04), with `wrap ≥ M − 1`,
    `M ≥ 1`, and let `a..b` end inside the sequence rows.  Then the generic backend (any column
    count), the SSE2 backend (any multiple of 16 columns: 16 and 32), the AVX2 backend and all
    three arms of the runtime dispatcher (32 columns) return WITHOUT PANIC the same result, whose
    cell `(r − a, c)` is the scalar-order window score at position `c·R + r` — identical values
    on every backend because it is literally the same expression.  The only law used about the
    arithmetic is `add x zero = x`, and only by the SSE2 kernel. -/
theorem all_f32_pipelines (zero : α) (add : α → α → α) (hz : ∀ x, add x zero = x) (pssm : Mat α K)
    (hK : K ≤ 256) (N : Nat) (s : List Nat) (hs : ∀ x ∈ s, x < K) (hN : N < K)
    (hM : 1 ≤ pssm.rows) (a b : Nat) :
    (∀ (C : Nat) (_ : 0 < C) (seq : Striped C) (sc0 : Scores α C), Inv N seq s →
      pssm.rows - 1 ≤ seq.wrap → b ≤ seqRowsOf C s.length →
      RowsSpec zero add pssm N s C a b (scoreRowsGeneric zero add pssm seq a b sc0)) ∧
    (∀ (C : Nat) (_ : 0 < C) (_ : 16 ∣ C) (seq : Striped C) (sc0 : Scores α C), Inv N seq s →
      pssm.rows - 1 ≤ seq.wrap → b ≤ seqRowsOf C s.length →
      RowsSpec zero add pssm N s C a b (Sse2.score zero add pssm seq a b sc0)) ∧
    (∀ (seq : Striped 32) (sc0 : Scores α 32), Inv N seq s →
      pssm.rows - 1 ≤ seq.wrap → b ≤ seqRowsOf 32 s.length →
      RowsSpec zero add pssm N s 32 a b (Avx2.scoreF32 zero add pssm seq a b sc0) ∧
      ∀ arm, RowsSpec zero add pssm N s 32 a b (dispatchF32 arm zero add pssm seq a b sc0)) := by
  refine ⟨fun C hC seq sc0 inv hW hb =>
      scoreRowsGeneric_spec hC zero add pssm N seq s inv hs hN hW a b hb sc0,
    fun C hC h16 seq sc0 inv hW hb => ?_, fun seq sc0 inv hW hb => ⟨?_, fun arm => ?_⟩⟩
  · rw [scoreSse2_eq_generic zero add hz pssm h16 seq a b sc0 hM hW (inv.seqRows ▸ hb)
      (symOK_of_inv N seq s inv hs hN)]
    exact scoreRowsGeneric_spec hC zero add pssm N seq s inv hs hN hW a b hb sc0
  · rw [scoreF32Avx2_eq_generic zero add pssm hK seq a b sc0 hM hW (inv.seqRows ▸ hb)
      (symOK_of_inv N seq s inv hs hN)]
    exact scoreRowsGeneric_spec (by decide) zero add pssm N seq s inv hs hN hW a b hb sc0
  · rw [dispatchF32_eq_generic arm zero add hz pssm hK seq a b sc0 hM hW (inv.seqRows ▸ hb)
      (symOK_of_inv N seq s inv hs hN)]
    exact scoreRowsGeneric_spec (by decide) zero add pssm N seq s inv hs hN hW a b hb sc0

/-- **C01, `u8` pipelines**: the AVX2 shuffle kernel (hence the AVX2 arm of the dispatcher) computes
    the window score for the saturating addition, with no law assumed -/
theorem u8_avx2_pipeline (zero : α) (addSat : α → α → α) (pssm : Mat α K) (hK : K ≤ 16) (N : Nat)
    (s : List Nat) (hs : ∀ x ∈ s, x < K) (hN : N < K) (hM : 1 ≤ pssm.rows) (a b : Nat)
    (seq : Striped 32) (sc0 : Scores α 32) (inv : Inv N seq s) (hW : pssm.rows - 1 ≤ seq.wrap)
    (hb : b ≤ seqRowsOf 32 s.length) :
    RowsSpec zero addSat pssm N s 32 a b (Avx2.scoreU8 zero addSat pssm seq a b sc0) := by
  rw [scoreU8_eq_generic zero addSat pssm hK seq a b sc0 hM hW (inv.seqRows ▸ hb)
    (symOK_of_inv N seq s inv hs hN)]
  exact scoreRowsGeneric_spec (by decide) zero addSat pssm N seq s inv hs hN hW a b hb sc0

/-- instance of `score_unstripe_any`: `ScoringMatrix::score` through any arm of the dispatcher -/
theorem score_unstripe_dispatch (arm : Arm) (zero : α) (add : α → α → α) (hz : ∀ x, add x zero = x)
    (pssm : Mat α K) (hK : K ≤ 256) (N : Nat) (seq : Striped 32) (s : List Nat) (inv : Inv N seq s)
    (hs : ∀ x ∈ s, x < K) (hN : N < K) (hM : 1 ≤ pssm.rows) (hW : pssm.rows - 1 ≤ seq.wrap) :
    ∃ sc, scoreFull (dispatchF32 arm zero add pssm seq) seq = .ok sc ∧
      (unstripe zero sc).length = s.length + 1 - pssm.rows ∧
      ∀ i, i < s.length + 1 - pssm.rows →
        (unstripe zero sc)[i]? = some (windowScore zero add pssm N s i) :=
  score_unstripe_any (by decide) zero add pssm N seq s inv hs hN hM hW _
    (fun sc => dispatchF32_eq_generic arm zero add hz pssm hK seq 0 _ sc hM hW (Nat.le_refl _)
      (symOK_of_inv N seq s inv hs hN))

/-! ### `u8`: the saturating accumulation of every backend is the sum capped at 255 -/

/-- a left fold of `saturating_add` over byte scores is the exact sum, capped at 255 -/
theorem u8_fold_sat (terms : List Nat) : List.foldl u8Sat 0 terms = min terms.sum 255 := by
  induction terms using list_snoc_induction with
  | nil => rfl
  | snoc l x ih =>
    simp only [List.foldl_append, List.sum_append, List.foldl_cons, List.foldl_nil, List.sum_cons,
      List.sum_nil, Nat.add_zero, ih, u8Sat]
    -- below the cap nothing is cut; at the cap both sides stay there
    rcases Nat.le_total l.sum 255 with h | h
    · rw [Nat.min_eq_left h]
    · rw [Nat.min_eq_right h, Nat.min_eq_right (Nat.le_add_right _ _),
        Nat.min_eq_right (Nat.le_add_right_of_le h)]

/-- while the sum fits a byte, wrapping accumulation (`u8Wrap`, plain `+` on `u8`) gives the same
    value -/
theorem u8_fold_agree (terms : List Nat) (h : terms.sum ≤ 255) :
    List.foldl u8Sat 0 terms = terms.sum ∧ List.foldl u8Wrap 0 terms = terms.sum := by
  refine ⟨by rw [u8_fold_sat, Nat.min_eq_left h], ?_⟩
  induction terms using list_snoc_induction with
  | nil => rfl
  | snoc l x ih =>
    simp only [List.sum_append, List.sum_cons, List.sum_nil, Nat.add_zero, List.foldl_append,
      List.foldl_cons, List.foldl_nil] at h ⊢
    rw [ih (Nat.le_trans (Nat.le_add_right _ _) h)]
    exact Nat.mod_eq_of_lt (Nat.lt_succ_of_le h)

/-- **C01, `u8` scores**: with `Accumulate` = `saturating_add` (generic backend,
    `DiscreteMatrix::score_position`) and `adds_epu8` (AVX2), every backend's window score is the sum
    of the byte scores capped at 255 — for EVERY input, also above 255. -/
theorem windowScore_u8 (pssm : Mat Nat K) (N : Nat) (s : List Nat) (i : Nat) :
    windowScore 0 u8Sat pssm N s i = min (windowTerms 0 pssm N s i).sum 255 := by
  rw [windowScore_eq_foldl]
  exact u8_fold_sat _

/-! ## §F  floating-point summation error of a left fold -/

theorem abs_list_sum_le (l : List ℚ) : |l.sum| ≤ (l.map (|·|)).sum := by
  induction l with
  | nil => exact abs_zero.le
  | cons x xs ih =>
    simp only [List.sum_cons, List.map_cons]
    exact (abs_add_le x xs.sum).trans (Rat.add_le_add_left.mpr ih)

theorem list_abs_sum_nonneg (l : List ℚ) : 0 ≤ (l.map (|·|)).sum := by
  induction l with
  | nil => exact le_rfl
  | cons x xs ih =>
    simp only [List.sum_cons, List.map_cons]
    exact Rat.add_nonneg (abs_nonneg x) ih

/-- **C01 (5), the standard rounding-error bound.**  If every addition is exact up to a relative
    error `|δ| ≤ u` (`fl(x + y) = (x + y)(1 + δ)`: IEEE round-to-nearest with `u = 2⁻²⁴` for `f32`,
    valid for all finite operands short of overflow — additions are exact in the subnormal range),
    a left fold of `n` terms started at `0` is within `((1 + u)ⁿ − 1) · Σ|xᵢ|` of the exact sum. -/
theorem foldl_round_error (u : ℚ) (hu : 0 ≤ u) (fl : ℚ → ℚ → ℚ)
    (hfl : ∀ x y, ∃ δ, |δ| ≤ u ∧ fl x y = (x + y) * (1 + δ)) (xs : List ℚ) :
    |List.foldl fl 0 xs - xs.sum| ≤ ((1 + u) ^ xs.length - 1) * (xs.map (|·|)).sum := by
  induction xs using list_snoc_induction with
  | nil => simp
  | snoc l x ih =>
    simp only [List.foldl_append, List.sum_append, List.map_append, List.length_append, List.foldl_cons,
      List.foldl_nil, List.sum_cons, List.sum_nil, List.map_cons, List.map_nil, List.length_cons,
      List.length_nil, add_zero, zero_add]
    obtain ⟨δ, hδ, he⟩ := hfl (List.foldl fl 0 l) x
    rw [he]
    generalize List.foldl fl 0 l = S at ih ⊢
    have hT := abs_list_sum_le l
    have hA := list_abs_sum_nonneg l
    generalize l.sum = T at ih hT ⊢
    generalize (l.map (|·|)).sum = A at ih hT hA ⊢
    have hp : 0 ≤ (1 + u) ^ l.length - 1 :=
      (Rat.le_iff_sub_nonneg _ _).mp (one_le_pow₀ (le_add_of_nonneg_right hu))
    rw [pow_succ]
    generalize (1 + u) ^ l.length = p at ih hp ⊢
    have h1 : |1 + δ| ≤ 1 + u := (abs_add_le 1 δ).trans (add_le_add abs_one.le hδ)
    have h2 : |T + x| ≤ A + |x| := (abs_add_le T x).trans (Rat.add_le_add_right.mpr hT)
    have hx := abs_nonneg x
    -- the new bound exceeds the sum of the two error terms by `|x| (p − 1) (1 + u) ≥ 0`
    calc |(S + x) * (1 + δ) - (T + x)|
        = |(S - T) * (1 + δ) + (T + x) * δ| := congrArg abs (by ring)
      _ ≤ |S - T| * |1 + δ| + |T + x| * |δ| :=
          (abs_add_le _ _).trans_eq (congrArg₂ _ (abs_mul _ _) (abs_mul _ _))
      _ ≤ ((p - 1) * A) * (1 + u) + (A + |x|) * u :=
          add_le_add (mul_le_mul ih h1 (abs_nonneg _) (Rat.mul_nonneg hp hA))
            (mul_le_mul h2 hδ (abs_nonneg _) (Rat.add_nonneg hA hx))
      _ = (p * (1 + u) - 1) * (A + |x|) - |x| * (p - 1) * (1 + u) := by ring
      _ ≤ (p * (1 + u) - 1) * (A + |x|) :=
          sub_le_self _ (Rat.mul_nonneg (Rat.mul_nonneg hx hp) (Rat.add_nonneg (by decide) hu))

/-- the bound for the window score: what every backend returns for a window of finite entries is
    within `((1 + u)^M − 1) · Σ_j |m[j][s[i+j]]|` of the exact sum `Σ_j m[j][s[i+j]]` -/
theorem windowScore_round_error (u : ℚ) (hu : 0 ≤ u) (fl : ℚ → ℚ → ℚ)
    (hfl : ∀ x y, ∃ δ, |δ| ≤ u ∧ fl x y = (x + y) * (1 + δ)) (pssm : Mat ℚ K) (N : Nat)
    (s : List Nat) (i : Nat) :
    |windowScore 0 fl pssm N s i - (windowTerms 0 pssm N s i).sum| ≤
      ((1 + u) ^ pssm.rows - 1) * ((windowTerms 0 pssm N s i).map (|·|)).sum := by
  have h := foldl_round_error u hu fl hfl (windowTerms 0 pssm N s i)
  rw [windowScore_eq_foldl]
  have hl : (windowTerms 0 pssm N s i).length = pssm.rows := by simp [windowTerms]
  rw [hl] at h
  exact h

/-! ## §G  the hypotheses are satisfiable and the theorems say something -/

/-- a 7-symbol DNA sequence containing the wildcard `N = 4`, and a 2-row integer matrix -/
def exS : List Nat := [0, 2, 3, 1, 0, 4, 2]
def exP : Mat Int 5 := Mat.ofFn 2 fun r c => (r : Int) * 10 - c
def exSeq4 : Striped 4 := Striped.configure 4 2 (stripeGeneric (C := 4) 4 exS Striped.empty)
/-- 40 symbols in 32 columns: 2 sequence rows + 1 wrap row -/
def exS32 : List Nat := (List.range 40).map fun i => (i * i + i / 3) % 5
def exSeq32 : Striped 32 := Striped.configure 4 2 (stripeGeneric (C := 32) 4 exS32 Striped.empty)

def unOf {C : Nat} (r : Except String (Scores Int C)) : List Int :=
  match r with
  | .ok sc => unstripe 0 sc
  | .error _ => [-999]

-- the hypotheses of §B/§E hold for a striped and configured sequence
example : Inv 4 exSeq4 exS := configure_inv (by decide) 4 _ _ 2 (stripeGeneric_inv (by decide) 4 _ _)
example : Inv 4 exSeq32 exS32 := configure_inv (by decide) 4 _ _ 2 (stripeGeneric_inv (by decide) 4 _ _)
example : (∀ x ∈ exS, x < 5) ∧ 1 ≤ exP.rows ∧ exP.rows - 1 ≤ exSeq4.wrap := by decide
example : SymOK 5 exSeq32 :=
  symOK_of_inv 4 exSeq32 exS32
    (configure_inv (by decide) 4 _ _ 2 (stripeGeneric_inv (by decide) 4 _ _)) (by decide) (by decide)
-- and the conclusions are the expected numbers: L - M + 1 = 6 values, each the window score
example : unOf (scoreFull (scoreRowsGeneric 0 (· + ·) exP exSeq4) exSeq4) = [8, 5, 6, 9, 6, 4] := by decide +kernel
example : (List.range 6).map (fun i => windowScore 0 (· + ·) exP 4 exS i) = [8, 5, 6, 9, 6, 4] := by decide +kernel
-- the SIMD models really run their lanes (39 = 40 - 2 + 1 values, two sequence rows, look-ahead row used)
example : unOf (scoreFull (Avx2.scoreF32 0 (· + ·) exP exSeq32) exSeq32) =
    (List.range 39).map fun i => windowScore 0 (· + ·) exP 4 exS32 i := by decide +kernel
example : unOf (scoreFull (Sse2.score 0 (· + ·) exP exSeq32) exSeq32) =
    (List.range 39).map fun i => windowScore 0 (· + ·) exP 4 exS32 i := by decide +kernel
example : unOf (scoreFull (Avx2.scoreU8 0 (· + ·) exP exSeq32) exSeq32) =
    (List.range 39).map fun i => windowScore 0 (· + ·) exP 4 exS32 i := by decide +kernel
-- a sub-range at the end of the rows; an empty range; L < M
example : unOf (Avx2.scoreF32 0 (· + ·) exP exSeq32 1 2 Score.empty) =
    unOf (scoreRowsGeneric 0 (· + ·) exP exSeq32 1 2 Score.empty) := by decide +kernel
example : unOf (Sse2.score 0 (· + ·) exP exSeq32 1 1 Score.empty) = [] := by decide +kernel
example : unOf (scoreFull (scoreRowsGeneric 0 (· + ·) exP
    (Striped.configure 4 2 (stripeGeneric (C := 4) 4 [3] Striped.empty)))
    (Striped.configure 4 2 (stripeGeneric (C := 4) 4 [3] Striped.empty))) = [] := by decide +kernel
-- the guards are needed: without the wrap row the SIMD wrapper panics and the generic code reads a missing row
example : (match Avx2.scoreF32 0 (· + ·) exP (stripeGeneric (C := 32) 4 exS32 Striped.empty) 0 2 Score.empty with
    | .ok _ => false | .error _ => true) = true := by decide +kernel
example : (match scoreRowsGeneric 0 (· + ·) exP (stripeGeneric (C := 32) 4 exS32 Striped.empty) 0 2 Score.empty with
    | .ok _ => false | .error _ => true) = true := by decide +kernel
-- a range past the matrix: the wrapper (on its row-range check) and the generic code both panic (SameOutcome, right disjunct)
example : (match Avx2.scoreF32 0 (· + ·) exP exSeq32 1 3 Score.empty,
    scoreRowsGeneric 0 (· + ·) exP exSeq32 1 3 Score.empty with
    | .error _, .error _ => true | _, _ => false) = true := by decide +kernel
-- the full range, whose last row reads the wrap row: both compute, and agree (SameOutcome, left disjunct)
example : unOf (Sse2.score 0 (· + ·) exP exSeq32 0 2 Score.empty) =
    unOf (scoreRowsGeneric 0 (· + ·) exP exSeq32 0 2 Score.empty) := by decide +kernel
-- the law `add x zero = x` of the SSE2 theorem is not vacuous either: it holds for exact numbers
example : ∀ x : Int, x + 0 = x := Int.add_zero
-- exact arithmetic: a `⊥` entry makes exactly the windows that meet it `⊥`
example : windowScore (0 : WithBot ℚ) (· + ·) (Mat.ofFn (C := 5) 1 fun _ c => if c = 4 then ⊥ else 1) 4 [0, 4, 1] 1 = ⊥ := by
  rw [windowScore_eq_bot_iff]; exact ⟨0, by decide, by decide⟩

end C01
end LMV
