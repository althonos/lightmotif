/-
  C06 — No safe API call reads or writes outside the memory it owns.

  Theorems about the memory-access models LMV/Mem: for every size that passes the checks of the safe
  wrapper, every access of the kernel lies inside its buffer and every aligned access has an aligned
  offset (buffers laid out as in C19).  The tie between the access models and the implementation is
  the AddressSanitizer run of the `c06` stream (tools/c06_runner.sh).
-/
import LMV.Lemmas.Mem
import LMV.Mem.Api

namespace LMV
namespace C06

open Mem

/-! ## striping (`stripe_avx2`) -/

/-- every load multiplies `src_stride` by at most 31, every store `out_stride` by at most 31, both
    pointers advance by one block -/
theorem stripe_block_table :
    (∀ p ∈ Gen.Avx2Stripe.loads, p.2 ≤ 31) ∧ (∀ p ∈ Gen.Avx2Stripe.stores, p.1 ≤ 31) ∧
    Gen.Avx2Stripe.srcInc = 32 ∧ Gen.Avx2Stripe.outInc = 32 := by
  decide +kernel

/-- the loop condition is `<=`; rows of the striped matrix are 32 bytes apart -/
theorem stripe_loop_table :
    Gen.Avx2Stripe.loopStrict = false ∧ Dense.stride 32 1 ALIGN = 32 ∧ rowB 32 1 = 32 := by
  decide +kernel

/-- the loop condition carries the source-buffer guard of the library's fix; the pinned commit has none -/
theorem stripe_guard : Gen.Avx2Stripe.srcGuard = some 31 := by decide +kernel

/-- the block loop under the invariant `src = seq + i`, `out = matrix + 32·i`, for any loop condition
    that keeps the furthest load of a block that is entered (`31·stride + i + 32`) inside the `L`
    symbols; `so` and `oo` are variables, tied to `i` by equations, so that the induction can follow the
    recursion of `stripeLoop` -/
theorem stripeLoop_safe_of (guard : Option Nat) (sz : Sizes) (L stride : Nat) (hsym : sz .sym = L)
    (hmat : sz .seqmat = stride * 32)
    (hload : ∀ i, i % 32 = 0 → i + 32 ≤ stride → stripeGuardOk guard L stride i = true →
      31 * stride + i + 32 ≤ L) (fuel i so oo : Nat) (hi : i % 32 = 0) (hso : so = i) (hoo : oo = i * 32) :
    Safe sz (stripeLoop guard false L stride 32 fuel i so oo) := by
  obtain ⟨hl, hst, hsi, hoi⟩ := stripe_block_table
  fun_induction stripeLoop guard false L stride 32 fuel i so oo with
  | case2 fuel i so oo hc ih =>  -- the loop test `hc` holds: a block is entered
    subst so oo
    have hfar : i + 31 * stride + 32 ≤ sz .sym := by rw [hsym, Nat.add_comm i]; exact hload i hi hc.1 hc.2
    rw [Safe_append, Safe_append, Safe_map, Safe_map]
    refine ⟨⟨fun p hp => ⟨?_, Nat.one_pos, Nat.mod_one _⟩, fun p hp => ⟨?_, Nat.zero_lt_succ 31, ?_⟩⟩, ?_⟩
    · have h31 : p.2 * stride ≤ 31 * stride := Nat.mul_le_mul_right stride (hl p hp)
      show i + p.2 * stride + 32 ≤ sz .sym
      exact Nat.le_trans (Nat.add_le_add_right (Nat.add_le_add_left h31 i) 32) hfar
    · show i * 32 + p.1 * 32 + 32 ≤ sz .seqmat
      rw [hmat, ← Nat.add_mul]
      have hrow : i + p.1 < stride :=
        Nat.lt_of_lt_of_le (Nat.add_lt_add_left (Nat.lt_succ_of_le (hst p hp)) i) hc.1
      exact pos_add_le hrow (Nat.le_refl 32)
    · show (i * 32 + p.1 * 32) % 32 = 0
      rw [← Nat.add_mul]
      exact Nat.mul_mod_left _ 32
    · exact ih ((Nat.add_mod_right i 32).trans hi) (congrArg (i + ·) hsi) (by rw [hoi, Nat.add_mul])
  | case1 | case3 => exact Safe_nil sz

theorem stripeAvx2With_safe_of (guard : Option Nat) (L : Nat)
    (hload : ∀ i, i % 32 = 0 → i + 32 ≤ (L + 31) / 32 → stripeGuardOk guard L ((L + 31) / 32) i = true →
      31 * ((L + 31) / 32) + i + 32 ≤ L) :
    Safe (stripeSizes L) (stripeAvx2With guard L) := by
  obtain ⟨hstrict, hstride, hrow⟩ := stripe_loop_table
  fun_cases stripeAvx2With guard L
  · exact Safe_nil _
  · rw [hstrict, hstride]
    exact stripeLoop_safe_of guard (stripeSizes L) L ((L + 31) / 32) rfl
      (congrArg (_ * ·) hrow) hload ((L + 31) / 32 + 1) 0 0 0 (Nat.zero_mod 32) rfl (Nat.zero_mul 32).symm

/-- **C06, `stripe_avx2`** with the loop condition `… && 0x1f * src_stride + i + 32 <= length`, loads
    and stores as regenerated from the source: every access is inside the symbol buffer (`L` bytes)
    resp. the striped matrix (`⌈L/32⌉` rows of 32 bytes), stores 32-byte aligned -/
theorem stripe_avx2_inbounds (L : Nat) : Safe (stripeSizes L) (stripeAvx2 L) := by
  unfold stripeAvx2
  rw [stripe_guard]
  exact stripeAvx2With_safe_of (some 31) L fun i _ _ hg => by simpa [stripeGuardOk] using hg

/-- **the pinned commit** (loop condition `i + 32 <= src_stride` only): for 993
    symbols the load of register 31 reads bytes 992..1024 of a 993-byte buffer -/
theorem stripe_avx2_asIs_counterexample : ¬ Safe (stripeSizes 993) (stripeAvx2With none 993) := by
  decide +kernel

/-- the offending access is the one AddressSanitizer reports (`READ of size 32` at the last load) -/
example : (firstBad (stripeSizes 993) (stripeAvx2With none 993)) = some ⟨.sym, 992, 32, .read, 1⟩ := by
  decide +kernel

/-- in the loop of the pinned commit (`while i + 32 <= src_stride` only) the last load of block `n` is
    executed whenever `n + 1` complete blocks of rows exist (`hi`, with the `+ 32` of the last block
    apart: that is the shape of the loop test) and the fuel lasts that long -/
theorem stripeLoop_asIs_mem (L stride fuel n i so oo : Nat) (hn : n < fuel) (hi : i + 32 * n + 32 ≤ stride) :
    (⟨.sym, so + 32 * n + 31 * stride, 32, .read, 1⟩ : Access) ∈
      stripeLoop none false L stride 32 fuel i so oo := by
  obtain ⟨-, -, hsi, -⟩ := stripe_block_table
  have h31 : ((31, 31) : Nat × Nat) ∈ Gen.Avx2Stripe.loads := by decide +kernel
  fun_induction stripeLoop none false L stride 32 fuel i so oo generalizing n with
  | case1 => exact absurd hn (Nat.not_lt_zero n)
  | case2 fuel i so oo _ ih =>  -- a block is entered: `n = 0` asks for its last load, `n + 1` for one further on
    cases n with
    | zero =>
      apply List.mem_append_left; apply List.mem_append_left
      exact List.mem_map.mpr ⟨(31, 31), h31, by simp⟩
    | succ n =>
      apply List.mem_append_right
      have e (x : Nat) : x + 32 + 32 * n = x + 32 * (n + 1) := by rw [Nat.mul_succ, Nat.add_right_comm, Nat.add_assoc]
      have := ih n (Nat.lt_of_succ_lt_succ hn) (by rwa [e])
      rwa [hsi, e] at this
  | case3 _ i _ _ hc =>  -- the loop test fails: but by `hi` the block at `i` is complete
    have h32 : i + 32 ≤ stride := Nat.le_trans (Nat.add_le_add_right (Nat.le_add_right i _) 32) hi
    exact absurd ⟨h32, rfl⟩ hc

/-- **the striping defect, for all lengths**: the kernel of the pinned commit is in bounds exactly when
    fewer than 32 rows exist (no block runs) or the padding `32·⌈L/32⌉ − L` does not exceed `⌈L/32⌉ mod 32`; in
    particular it reads past the symbol buffer for every `L ≥ 993` whose row count is a multiple of
    32 and that is not itself a multiple of 32 (993..1023, 2017..2047, …) -/
theorem stripe_avx2_asIs_safe_iff (L : Nat) :
    Safe (stripeSizes L) (stripeAvx2With none L) ↔
      ((L + 31) / 32 < 32 ∨ 32 * ((L + 31) / 32) - L ≤ (L + 31) / 32 % 32) := by
  obtain ⟨hstrict, hstride, -⟩ := stripe_loop_table
  constructor
  · intro hsafe
    refine Decidable.byContradiction fun hc => ?_
    have hL : L ≠ 0 := fun h => hc (.inl (by subst h; decide))
    unfold stripeAvx2With at hsafe
    rw [if_neg hL, hstrict, hstride] at hsafe
    -- the witness: load 31 of the LAST complete block, `n = R/32 - 1`, ends at `32·(R/32) + 31·R > L`;
    -- the two side conditions: `n` is within the fuel `R + 1`, and blocks `0..n` are complete
    have hm := stripeLoop_asIs_mem L ((L + 31) / 32) ((L + 31) / 32 + 1) ((L + 31) / 32 / 32 - 1) 0 0 0
      (Nat.lt_succ_of_le (Nat.le_trans (Nat.sub_le _ 1) (Nat.div_le_self _ 32))) (by omega)
    have hb : 0 + 32 * _ + 31 * _ + 32 ≤ L := (hsafe _ hm).1
    omega
  · intro hc
    exact stripeAvx2With_safe_of none L fun i hi h32 _ => by omega

/-- 993 is the length of the sanitizer report -/
example : ∀ L, 993 ≤ L → L ≤ 1023 → ¬ Safe (stripeSizes L) (stripeAvx2With none L) := by
  intro L h1 h2 h
  have := (stripe_avx2_asIs_safe_iff L).mp h
  omega

/-- 2112 symbols (66 rows) run two complete blocks (128 accesses); 2100 symbols only one: the second
    block's last load would end at byte 2110 -/
example : (stripeAvx2With (some 31) 2112).length = 128 ∧ (stripeAvx2With (some 31) 2100).length = 64 ∧
    (stripeAvx2With none 2100).length = 128 := by decide +kernel

/-! ## encoders (`encode_into_avx2`, `encode_into_sse2`) -/

theorem encodeLoop_safe (tbl : List MemCall) (stride l : Nat) (strict : Bool) (sz : Sizes)
    (ht : sz .text = l) (hd : sz .dst = l)
    (hw1 : Window (sel tbl "src_ptr" 1) 0 (esz := 1) (room := stride) (al0 := 1))
    (hw2 : Window (sel tbl "dst_ptr" 1) 0 (esz := 1) (room := stride) (al0 := 1)) (fuel i : Nat) :
    Safe sz (encodeLoop tbl stride strict l fuel i) := by
  fun_induction encodeLoop tbl stride strict l fuel i with
  | case2 fuel i hc ih =>  -- the loop test `hc` holds: a block is read and written
    have hle : i + stride ≤ l := by
      split at hc
      · exact Nat.le_of_lt hc
      · exact hc
    rw [Safe_append, Safe_append]
    exact ⟨⟨hw1.safe (Nat.mod_one i) (ht ▸ hle), hw2.safe (Nat.mod_one i) (hd ▸ hle)⟩, ih⟩
  | case1 | case3 => exact Safe_nil sz

/-- An encoder over any table that passes the check.  One hypothesis, here and in the kernels
    below, so that one kernel evaluation decides it for a table: the conjuncts share the string
    comparisons of `intrinsic`, which are most of the work. -/
theorem encode_safe (tbl : List MemCall) (stride lsrc ldst stack : Nat) (strict : Bool)
    (h : handled tbl [("src_ptr", 1), ("dst_ptr", 1), ("x", 0)] = true ∧
      fitsPlain (sel tbl "src_ptr" 1) (esz := 1) (room := stride) (al0 := 1) = true ∧
      fitsPlain (sel tbl "dst_ptr" 1) (esz := 1) (room := stride) (al0 := 1) = true ∧
      fitsPlain (sel tbl "x" 0) (esz := 1) (room := stack) (al0 := 1) = true) :
    Safe (encodeSizes lsrc ldst stack) (encode tbl stride strict lsrc ldst) := by
  obtain ⟨hh, hw1, hw2, hw3⟩ := h
  fun_cases encode tbl stride strict lsrc ldst
  case case1 he =>
    subst he
    rw [Safe_append, Safe_append]
    exact ⟨⟨Safe_unhandled _ hh,
      encodeLoop_safe tbl stride lsrc strict _ rfl rfl (.ofFits hw1) (.ofFits hw2) _ _⟩,
      (Window.ofFits hw3).safe (Nat.mod_one 0) (Nat.le_of_eq (Nat.zero_add stack))⟩
  case case2 => exact Safe_nil _

/-- **C06, `encode_into_avx2`** (one unaligned 32-byte load from the text and one store to the
    destination per block): for all lengths of text and destination — the kernel asserts they are
    equal — every access is inside the text resp. the destination -/
theorem encode_avx2_inbounds (lsrc ldst : Nat) : Safe (encodeSizes lsrc ldst 0) (encodeAvx2 lsrc ldst) :=
  encode_safe _ _ lsrc ldst 0 _ (by decide +kernel)

theorem encodeSse2_fits :
    handled Gen.MemOps.encodeSse2 [("src_ptr", 1), ("dst_ptr", 1), ("x", 0)] = true ∧
    fitsPlain (sel Gen.MemOps.encodeSse2 "src_ptr" 1) (esz := 1) (room := 16) (al0 := 1) = true ∧
    fitsPlain (sel Gen.MemOps.encodeSse2 "dst_ptr" 1) (esz := 1) (room := 16) (al0 := 1) = true ∧
    fitsPlain (sel Gen.MemOps.encodeSse2 "x" 0) (esz := 1) (room := 16) (al0 := 1) = true := by
  decide +kernel

/-- **C06, `encode_into_sse2`** (`while i + 16 < l`: the 16-byte loads never reach the last byte); the
    error flag is spilled by one 16-byte store to the 16-byte stack array -/
theorem encode_sse2_inbounds (lsrc ldst : Nat) : Safe (encodeSizes lsrc ldst 16) (encodeSse2 lsrc ldst) :=
  encode_safe _ _ lsrc ldst 16 _ encodeSse2_fits

/-- 100 bytes: 3 AVX2 blocks (6 accesses); 6 SSE2 blocks (offsets 0..80) and the flag spill; nothing
    at all when the lengths differ (the kernel's `assert_eq!` panics first) -/
example : (encodeAvx2 100 100).length = 6 ∧ (encodeSse2 100 100).length = 13 ∧ (encodeAvx2 100 99).length = 0 := by
  decide +kernel

/-- with `<=` in place of `<` the SSE2 loop would still be in bounds (`i + 16 <= l`): the strict test
    is conservative, not a defect -/
example (l : Nat) : Safe (encodeSizes l l 16) (encode Gen.MemOps.encodeSse2 16 false l l) :=
  encode_safe _ 16 l l 16 false encodeSse2_fits

/-! ## scoring (`score_f32_avx2_permute`, `score_f32_avx2_gather`, `score_u8_avx2_shuffle`, `score_sse2`) -/

/-- row `a + k + j` of the sequence matrix, read for score row `k` and motif position `j`, exists when
    the last one, `b - 1 + M - 1`, does -/
theorem row_lt {M Rm a b k j : Nat} (hrange : b + M ≤ Rm + 1) (hk : k < b - a) (hj : j < M) :
    a + k + j < Rm := by
  have hk' : a + k < b := Nat.add_lt_of_lt_sub' hk
  have h : a + k + (j + 1) < b + M := Nat.add_lt_add_of_lt_of_le hk' hj
  exact Nat.lt_of_succ_lt_succ (Nat.lt_of_lt_of_le h hrange)

/-- the AVX2 scoring loop nest over any table; `hrange`: the last row read, `b - 1 + M - 1`, exists -/
theorem scoreAvx2_safe (tbl : List MemCall) (K esz M Rm a b : Nat) (sz : Sizes)
    (hh : handled tbl [("seqptr", 2), ("pssmptr", 2), ("rowptr", 1)] = true)
    (hseq : Window (sel tbl "seqptr" 2) K 1 (rowB 32 1) 32)
    (hpssm : Window (sel tbl "pssmptr" 2) K esz (rowB K esz) 32)
    (hrow : Window (sel tbl "rowptr" 1) K esz (rowB 32 esz) 32)
    (hs1 : sz .seqmat = Rm * rowB 32 1) (hs2 : sz .pssm = M * rowB K esz)
    (hs3 : sz .scores = (b - a) * rowB 32 esz) (hrange : b + M ≤ Rm + 1) :
    Safe sz (scoreAvx2 tbl K esz M a b) := by
  simp only [scoreAvx2, Safe_append, Safe_flatMap, List.mem_range]
  exact ⟨Safe_unhandled sz hh, fun k hk => ⟨fun j hj =>
    ⟨hseq.safe_row (row_lt hrange hk hj) hs1 (row_mod ..), hpssm.safe_row hj hs2 (row_mod ..)⟩,
    hrow.safe_row hk hs3 (row_mod ..)⟩⟩

theorem scoreGuard_spec {M L Rm W a b : Nat} (h : scoreGuard true M L Rm W a b = true) :
    visited Rm b = b ∧ b + M ≤ Rm + 1 := by
  simp only [scoreGuard, Bool.and_eq_true, Bool.not_true, Bool.false_or, decide_eq_true_eq] at h
  obtain ⟨-, hb, hM⟩ : _ ∧ b ≤ Rm ∧ M - 1 ≤ Rm - b := h
  have hr : b + M ≤ b + (Rm - b) + 1 := Nat.add_le_add_left (Nat.le_add_of_sub_le hM) b
  rw [Nat.add_sub_of_le hb] at hr
  exact ⟨Nat.min_eq_left hb, hr⟩

theorem scoreAvx2Call_safe (tbl : List MemCall) (K esz M L Rm W a b : Nat)
    (h : handled tbl [("seqptr", 2), ("pssmptr", 2), ("rowptr", 1)] = true ∧
      fitsPlain (sel tbl "seqptr" 2) 1 (rowB 32 1) 32 = true ∧
      fitsPlain (sel tbl "rowptr" 1) esz (rowB 32 esz) 32 = true)
    (hpssm : Window (sel tbl "pssmptr" 2) K esz (rowB K esz) 32) :
    Safe (scoreSizes 32 K esz M Rm (b - a)) (scoreAvx2Call true tbl K esz M L Rm W a b) := by
  obtain ⟨hh, hseq, hrow⟩ := h
  fun_cases scoreAvx2Call true tbl K esz M L Rm W a b
  case case1 hg =>
    obtain ⟨hv, hr⟩ := scoreGuard_spec hg
    rw [hv]
    exact scoreAvx2_safe tbl K esz M Rm a b _ hh (.ofFits hseq) hpssm (.ofFits hrow) rfl rfl rfl hr
  case case2 => exact Safe_nil _

/-- **C06, `score_f32_avx2_permute`**: every call that passes the wrapper's checks — `M ≥ 1`,
    `wrap ≥ M-1`, `len ≥ M`, non-empty range, last row read inside the matrix — is in bounds and
    aligned.  The kernel asserts `K ≤ 8`; the bound is not needed: the 32-byte load of a scoring-matrix
    row stays inside the row because every non-empty row occupies at least 32 bytes (`rowB_ge_32`). -/
theorem score_f32_avx2_permute_inbounds (K M L Rm W a b : Nat) (hK : 1 ≤ K) :
    Safe (scoreSizes 32 K 4 M Rm (b - a))
      (scoreAvx2Call true Gen.MemOps.scoreF32Avx2Permute K 4 M L Rm W a b) :=
  scoreAvx2Call_safe _ K 4 M L Rm W a b (by decide +kernel)
    ((Window.ofFits (room := 32) (by decide +kernel)).mono (rowB_ge_32 K 4 (Nat.mul_pos hK (by decide))))

/-- **C06, `score_f32_avx2_gather`** (any alphabet size: lane indices are symbols `< K`, the gathered
    floats lie in the first `4·K` bytes of the row) -/
theorem score_f32_avx2_gather_inbounds (K M L Rm W a b : Nat) :
    Safe (scoreSizes 32 K 4 M Rm (b - a))
      (scoreAvx2Call true Gen.MemOps.scoreF32Avx2Gather K 4 M L Rm W a b) :=
  scoreAvx2Call_safe _ K 4 M L Rm W a b (by decide +kernel)
    ((Window.ofGather (al0 := 32) (by decide +kernel)).mono (rowB_ge K 4))

/-- **C06, `score_u8_avx2_shuffle`** (the 16-byte `_mm_load_si128` of a scoring-matrix row of `K ≥ 1`
    bytes stays inside the 32-byte row and is 16-byte aligned) -/
theorem score_u8_avx2_shuffle_inbounds (K M L Rm W a b : Nat) (hK : 1 ≤ K) :
    Safe (scoreSizes 32 K 1 M Rm (b - a))
      (scoreAvx2Call true Gen.MemOps.scoreU8Avx2Shuffle K 1 M L Rm W a b) :=
  scoreAvx2Call_safe _ K 1 M L Rm W a b (by decide +kernel)
    ((Window.ofFits (room := 16) (by decide +kernel)).mono
      (Nat.le_trans (by decide) (rowB_ge_32 K 1 (Nat.mul_pos hK Nat.one_pos))))

/-- **the pinned commit, scoring**: without the row-range check (the wrappers only
    checked `wrap ≥ M-1`), scoring rows `1..4` of a 4-row matrix (2 sequence rows + 2 wrap rows) with
    a motif of 2 rows reads row 4 = bytes 128..160 of a 128-byte matrix — the access AddressSanitizer
    reports.  `scoreSizes C K esz M Rm rows`, `scoreAvx2Call check tbl K esz M L Rm W a b`. -/
theorem score_avx2_asIs_counterexample :
    ¬ Safe (scoreSizes 32 5 4 2 4 3) (scoreAvx2Call false Gen.MemOps.scoreF32Avx2Permute 5 4 2 56 4 2 1 4) := by
  decide +kernel

example : firstBad (scoreSizes 32 5 4 2 4 3) (scoreAvx2Call false Gen.MemOps.scoreF32Avx2Permute 5 4 2 56 4 2 1 4)
    = some ⟨.seqmat, 128, 32, .read, 32⟩ := by decide +kernel

example : (scoreAvx2Call true Gen.MemOps.scoreF32Avx2Permute 5 4 2 56 4 2 0 3).length = 24 ∧
    (scoreAvx2Call true Gen.MemOps.scoreF32Avx2Gather 21 4 2 56 4 2 0 3).length = 522 ∧
    (scoreAvx2Call true Gen.MemOps.scoreU8Avx2Shuffle 5 1 2 56 5 2 0 3).length = 15 := by decide +kernel

theorem scoreSse2_safe (tbl : List MemCall) (C K M Rm a b : Nat) (sz : Sizes)
    (hh : handled tbl [("dataptr", 3), ("pssmptr", 4), ("rowptr", 2)] = true)
    (hseq : Window (sel tbl "dataptr" 3) K (esz := 1) (room := 16) (al0 := 16))
    (hpssm : Window (sel tbl "pssmptr" 4) K 4 (rowB K 4) 32)
    (hrow : Window (sel tbl "rowptr" 2) K (esz := 4) (room := 64) (al0 := 16))
    (hs1 : sz .seqmat = Rm * rowB C 1) (hs2 : sz .pssm = M * rowB K 4)
    (hs3 : sz .scores = (b - a) * rowB C 4) (hrange : b + M ≤ Rm + 1) :
    Safe sz (scoreSse2 tbl C K M a b) := by
  simp only [scoreSse2, Safe_append, Safe_flatMap, List.mem_range]
  refine ⟨Safe_unhandled sz hh, fun q hq k hk => ⟨fun j hj => ⟨?_, ?_⟩, ?_⟩⟩
  · have hfit := pass_fits (size := 1) hq
    rw [Nat.mul_one, Nat.mul_one] at hfit
    exact hseq.safe_at (row_lt hrange hk hj) hfit hs1 (row_off_mod _ C 1 _ 16 rfl (Nat.mul_mod_left q 16))
  · exact hpssm.safe_row hj hs2 (row_mod ..)
  · exact hrow.safe_at hk (pass_fits hq) hs3 (row_off_mod _ C 4 _ 16 rfl (pass_mod q 4))

theorem scoreSse2_fits :
    handled Gen.MemOps.scoreSse2 [("dataptr", 3), ("pssmptr", 4), ("rowptr", 2)] = true ∧
    fitsPlain (sel Gen.MemOps.scoreSse2 "dataptr" 3) (esz := 1) (room := 16) (al0 := 16) = true ∧
    (sel Gen.MemOps.scoreSse2 "pssmptr" 4).all (fun c => c.intr == "_mm_load1_ps" && c.sym != "") = true ∧
    fitsPlain (sel Gen.MemOps.scoreSse2 "rowptr" 2) (esz := 4) (room := 64) (al0 := 16) = true := by
  decide +kernel

/-- **C06, `score_sse2`**: for every column count (the kernel runs `C / 16` passes), alphabet size and
    every call that passes the wrapper's checks, all accesses are in bounds; the 16-byte sequence loads
    and score stores are 16-byte aligned, the scalar loads of the scoring matrix 4-byte aligned -/
theorem score_sse2_inbounds (C K M L Rm W a b : Nat) :
    Safe (scoreSizes C K 4 M Rm (b - a)) (scoreSse2Call true Gen.MemOps.scoreSse2 C K M L Rm W a b) := by
  fun_cases scoreSse2Call true Gen.MemOps.scoreSse2 C K M L Rm W a b
  case case1 hg =>
    obtain ⟨hv, hr⟩ := scoreGuard_spec hg
    rw [hv]
    obtain ⟨hh, hseq, hsym, hrow⟩ := scoreSse2_fits
    exact scoreSse2_safe _ C K M Rm a b _ hh (.ofFits hseq)
      ((Window.ofSym (al0 := 32) (by decide) hsym).mono (rowB_ge K 4)) (.ofFits hrow) rfl rfl rfl hr
  case case2 => exact Safe_nil _

/-- the same for SSE2: scoring row `2..3` of a 3-row matrix (2 sequence rows + 1 wrap row, 16 columns)
    with a motif of 2 rows reads row 3 = bytes 96..112 of a 96-byte matrix.
    `scoreSse2Call check tbl C K M L Rm W a b`. -/
theorem score_sse2_asIs_counterexample :
    ¬ Safe (scoreSizes 16 5 4 2 3 1) (scoreSse2Call false Gen.MemOps.scoreSse2 16 5 2 30 3 1 2 3) := by
  decide +kernel

example : (scoreSse2Call true Gen.MemOps.scoreSse2 32 5 2 56 4 2 0 3).length = 96 := by decide +kernel

/-! ## maxima (`argmax_f32_avx2`, `max_f32_avx2`, `argmax_u8_avx2`, `max_u8_avx2`, `argmax_sse2`) -/

/-- the AVX2 reductions on a score matrix of `rows` rows: nothing is touched when the matrix is empty
    (`is_empty()`), otherwise row 0 exists for the loads before the loop -/
theorem reduceAvx2_safe (tbl : List MemCall) (esz xesz rows stack : Nat)
    (h : handled tbl [("dataptr", 0), ("dataptr", 1), ("x", 0)] = true ∧
      fitsPlain (sel tbl "dataptr" 0) esz (rowB 32 esz) 32 = true ∧
      fitsPlain (sel tbl "dataptr" 1) esz (rowB 32 esz) 32 = true ∧
      fitsPlain (sel tbl "x" 0) (esz := xesz) (room := stack) (al0 := 1) = true) :
    Safe (reduceSizes 32 esz rows stack) (reduceAvx2 tbl esz xesz rows) := by
  obtain ⟨hh, hd0, hd1, hx⟩ := h
  have hd0 := Window.ofFits (K := 0) hd0
  have hd1 := Window.ofFits (K := 0) hd1
  have hx := Window.ofFits (K := 0) hx
  fun_cases reduceAvx2 tbl esz xesz rows
  case case1 => exact Safe_nil _
  case case2 h0 =>
    simp only [Safe_append, Safe_flatMap, List.mem_range]
    have hrow0 : 0 + rowB 32 esz ≤ rows * rowB 32 esz :=
      (Nat.zero_add _).symm ▸ Nat.le_mul_of_pos_left _ (Nat.pos_of_ne_zero h0)
    exact ⟨⟨⟨Safe_unhandled _ hh, hd0.safe (Nat.zero_mod 32) hrow0⟩,
      fun i hi => hd1.safe_row hi rfl (row_mod ..)⟩, hx.safe (Nat.mod_one 0) (Nat.le_of_eq (Nat.zero_add stack))⟩

/-- **C06, `argmax_f32_avx2`**: any row count (0 included: nothing is read); the indices are spilled
    into `[u32; 32]` (128 bytes) by four 32-byte stores at elements 0, 8, 16, 24 -/
theorem argmax_f32_avx2_inbounds (rows : Nat) :
    Safe (reduceSizes 32 4 rows 128) (reduceAvx2 Gen.MemOps.argmaxF32Avx2 4 4 rows) :=
  reduceAvx2_safe _ 4 4 rows 128 (by decide +kernel)

/-- **C06, `max_f32_avx2`** (`[f32; 8]` on the stack) -/
theorem max_f32_avx2_inbounds (rows : Nat) :
    Safe (reduceSizes 32 4 rows 32) (reduceAvx2 Gen.MemOps.maxF32Avx2 4 4 rows) :=
  reduceAvx2_safe _ 4 4 rows 32 (by decide +kernel)

/-- **C06, `argmax_u8_avx2`** (`[u16; 32]` on the stack, two 32-byte stores at elements 0 and 16) -/
theorem argmax_u8_avx2_inbounds (rows : Nat) :
    Safe (reduceSizes 32 1 rows 64) (reduceAvx2 Gen.MemOps.argmaxU8Avx2 1 2 rows) :=
  reduceAvx2_safe _ 1 2 rows 64 (by decide +kernel)

/-- **C06, `max_u8_avx2`** (`[u8; 32]` on the stack) -/
theorem max_u8_avx2_inbounds (rows : Nat) :
    Safe (reduceSizes 32 1 rows 32) (reduceAvx2 Gen.MemOps.maxU8Avx2 1 1 rows) :=
  reduceAvx2_safe _ 1 1 rows 32 (by decide +kernel)

/-- the `is_empty` guard matters: without it the loads before the loop of `argmax_f32_avx2` would read
    row 0 of an empty matrix -/
example : ¬ Safe (reduceSizes 32 4 0 128) (place Gen.MemOps.argmaxF32Avx2 "dataptr" 0 0 .scores 0 4) := by
  decide +kernel

example : (reduceAvx2 Gen.MemOps.argmaxF32Avx2 4 4 3).length = 20 ∧ (reduceAvx2 Gen.MemOps.argmaxF32Avx2 4 4 0).length = 0 ∧
    (reduceAvx2 Gen.MemOps.maxU8Avx2 1 1 3).length = 4 := by decide +kernel

/-- four 16-byte loads per row and pass, four 16-byte stores per pass into `GenericArray<u32, C>`
    (`4·C` bytes) -/
theorem argmaxSse2_safe (tbl : List MemCall) (C rows : Nat)
    (h : handled tbl [("dataptr", 2), ("outptr", 1)] = true ∧
      fitsPlain (sel tbl "dataptr" 2) (esz := 4) (room := 64) (al0 := 16) = true ∧
      fitsPlain (sel tbl "outptr" 1) (esz := 4) (room := 64) (al0 := 1) = true) :
    Safe (reduceSizes C 4 rows (4 * C)) (argmaxSse2 tbl C rows) := by
  obtain ⟨hh, hd, ho⟩ := h
  have hd := Window.ofFits (K := 0) hd
  have ho := Window.ofFits (K := 0) ho
  fun_cases argmaxSse2 tbl C rows
  case case1 => exact Safe_nil _
  case case2 =>
    simp only [Safe_append, Safe_flatMap, List.mem_range]
    refine ⟨Safe_unhandled _ hh, fun q hq => ⟨fun i hi =>
      hd.safe_at hi (pass_fits hq) rfl (row_off_mod _ C 4 _ 16 rfl (pass_mod q 4)),
      ho.safe (Nat.mod_one _) (Nat.le_trans (pass_le hq) (Nat.le_of_eq (Nat.mul_comm C 4)))⟩⟩

/-- **C06, `argmax_sse2`**: every column count, every row count -/
theorem argmax_sse2_inbounds (C rows : Nat) :
    Safe (reduceSizes C 4 rows (4 * C)) (argmaxSse2 Gen.MemOps.argmaxSse2 C rows) :=
  argmaxSse2_safe _ C rows (by decide +kernel)

example : (argmaxSse2 Gen.MemOps.argmaxSse2 32 3).length = 32 := by decide +kernel

/-! ## dense matrix

  Only `fill` (the extent of `ravel_mut`) has an access model.  `uninitialized`, `from_rows` and
  `encode_raw` have none: the two statements after `fill_inbounds` are arithmetic of std's contract. -/

/-- **C06, `DenseMatrix::fill`** (and the extent of `ravel` / `ravel_mut`): the slice of
    `rows · stride()` elements covers at most the `rows` rows of the matrix, every element write is
    inside it and element-aligned — for every column count, element size ≥ 1 and row count -/
theorem fill_inbounds (C size rows : Nat) (hs : 0 < size) :
    Safe (matSizes C size rows) (fill C size rows) := by
  unfold fill
  rw [Safe_map]
  intro k hk
  refine ⟨?_, hs, Nat.mul_mod_left k size⟩
  show k * size + size ≤ rows * rowB C size
  have h1 : Dense.stride C size ALIGN * size ≤ rowB C size := Nat.div_mul_le_self _ _
  have h2 : rows * Dense.stride C size ALIGN * size ≤ rows * rowB C size := by
    rw [Nat.mul_assoc]; exact Nat.mul_le_mul_left rows h1
  exact Nat.le_trans (pos_add_le (List.mem_range.mp hk) (Nat.le_refl size)) h2

/-- no access model stands behind this: `DenseMatrix::uninitialized(rows)` (`reserve(rows)` on an
    empty `Vec`, then `set_len(rows)`),
    `from_rows` (which then indexes rows `0..rows` only) and `Encode::encode_raw`
    (`with_capacity(n)`, `set_len(n)`): the new length never exceeds the capacity, given std's
    contract that `reserve` / `with_capacity` provide at least what was asked -/
theorem set_len_within_capacity (len additional cap n : Nat) (hcontract : len + additional ≤ cap)
    (hlen : len = 0) (hn : n = additional) : n ≤ cap := by
  subst hlen hn; rwa [Nat.zero_add] at hcontract

/-- likewise: `from_rows` writes exactly the rows it allocated (`for (i, row) in it.enumerate()` with
    `i < it.len()` = the row count given to `uninitialized`) -/
theorem from_rows_indices (n : Nat) : ∀ i ∈ List.range n, i < n := fun _ h => List.mem_range.mp h

example : (fill 5 4 3).length = 24 ∧ (fill 43 1 2).length = 128 := by decide +kernel

/-! ## the hand-mirrored loop structure, pinned to the source

  The access models place each pointer variable by the kernel's loop structure: where it is
  initialised (which row of which matrix, at which loop depth) and by how much it advances per
  iteration (one row / one vector).  These statements of the source are regenerated into
  `Gen.MemOps.*Init` / `*Step`; the equalities below are what LMV/Mem/Kernels.lean assumes, so a
  change of a pointer initialisation or increment in the source breaks the theorem.  The comparison
  is of the expression texts as extracted (white space removed): a re-formatting breaks it as well
  and asks for a look.  What the model depends on is the row and matrix named in `Init` and the
  stride named in `Step`. -/
theorem pointer_walks :
    Gen.MemOps.encodeAvx2Init = [⟨"dst_ptr", "dst.as_mut_ptr()", 0⟩, ⟨"src_ptr", "seq.as_ptr()", 0⟩] ∧
    Gen.MemOps.encodeAvx2Step = [⟨"dst_ptr", "STRIDE", 1⟩, ⟨"src_ptr", "STRIDE", 1⟩] ∧
    Gen.MemOps.scoreF32Avx2PermuteInit = [⟨"pssmptr", "pssm[0].as_ptr()", 1⟩, ⟨"rowptr", "data[0].as_mut_ptr()", 0⟩, ⟨"seqptr", "seq.matrix()[i].as_ptr()", 1⟩] ∧
    Gen.MemOps.scoreF32Avx2PermuteStep = [⟨"pssmptr", "pssm.stride()", 2⟩, ⟨"rowptr", "data.stride()", 1⟩, ⟨"seqptr", "seq.matrix().stride()", 2⟩] ∧
    Gen.MemOps.scoreF32Avx2GatherInit = [⟨"pssmptr", "pssm[0].as_ptr()", 1⟩, ⟨"rowptr", "data[0].as_mut_ptr()", 0⟩, ⟨"seqptr", "seq.matrix()[i].as_ptr()", 1⟩] ∧
    Gen.MemOps.scoreF32Avx2GatherStep = [⟨"pssmptr", "pssm.stride()", 2⟩, ⟨"rowptr", "data.stride()", 1⟩, ⟨"seqptr", "seq.matrix().stride()", 2⟩] ∧
    Gen.MemOps.scoreU8Avx2ShuffleInit = [⟨"pssmptr", "pssm[0].as_ptr()", 1⟩, ⟨"rowptr", "data[0].as_mut_ptr()as*muti8", 0⟩, ⟨"seqptr", "seq.matrix()[i].as_ptr()", 1⟩] ∧
    Gen.MemOps.scoreU8Avx2ShuffleStep = [⟨"pssmptr", "pssm.stride()", 2⟩, ⟨"rowptr", "data.stride()", 1⟩, ⟨"seqptr", "seq.matrix().stride()", 2⟩] ∧
    Gen.MemOps.argmaxF32Avx2Init = [⟨"dataptr", "data[0].as_ptr()", 0⟩] ∧
    Gen.MemOps.argmaxF32Avx2Step = [⟨"dataptr", "data.stride()", 1⟩] ∧
    Gen.MemOps.maxF32Avx2Init = [⟨"dataptr", "data[0].as_ptr()", 0⟩] ∧
    Gen.MemOps.maxF32Avx2Step = [⟨"dataptr", "data.stride()", 1⟩] ∧
    Gen.MemOps.argmaxU8Avx2Init = [⟨"dataptr", "data[0].as_ptr()", 0⟩] ∧
    Gen.MemOps.argmaxU8Avx2Step = [⟨"dataptr", "data.stride()", 1⟩] ∧
    Gen.MemOps.maxU8Avx2Init = [⟨"dataptr", "data[0].as_ptr()", 0⟩] ∧
    Gen.MemOps.maxU8Avx2Step = [⟨"dataptr", "data.stride()", 1⟩] ∧
    Gen.MemOps.encodeSse2Init = [⟨"dst_ptr", "dst.as_mut_ptr()", 0⟩, ⟨"src_ptr", "seq.as_ptr()", 0⟩] ∧
    Gen.MemOps.encodeSse2Step = [⟨"dst_ptr", "STRIDE", 1⟩, ⟨"src_ptr", "STRIDE", 1⟩] ∧
    Gen.MemOps.scoreSse2Init = [⟨"dataptr", "seq.matrix()[i].as_ptr().add(offset)", 2⟩, ⟨"pssmptr", "pssm[0].as_ptr()", 2⟩, ⟨"rowptr", "data[0].as_mut_ptr().add(offset)", 1⟩] ∧
    Gen.MemOps.scoreSse2Step = [⟨"dataptr", "seq.matrix().stride()", 3⟩, ⟨"pssmptr", "pssm.stride()", 3⟩, ⟨"rowptr", "data.stride()", 2⟩] ∧
    Gen.MemOps.argmaxSse2Init = [⟨"dataptr", "data[0].as_ptr().add(offset)", 1⟩, ⟨"outptr", "output.as_mut_ptr().add(offset)", 1⟩] ∧
    Gen.MemOps.argmaxSse2Step = [⟨"dataptr", "data.stride()", 2⟩] :=
  ⟨rfl, rfl, rfl, rfl, rfl, rfl, rfl, rfl, rfl, rfl, rfl, rfl, rfl, rfl, rfl, rfl, rfl, rfl, rfl, rfl, rfl, rfl⟩

/-- the stack arrays the kernels spill to through raw pointers, as declared in the source: their
    sizes are the `stack` sizes of the theorems above (`[u32; 32]` = 128 bytes, `[f32; 8]` = 32,
    `[u16; 32]` = 64, `[u8; 32]` = 32, `[u8; 16]` = 16, `GenericArray<u32, C>` = `4·C`) -/
theorem stack_arrays :
    Gen.MemOps.argmaxF32Avx2Arrays = [("x", "u32", "32")] ∧ Gen.MemOps.maxF32Avx2Arrays = [("x", "f32", "8")] ∧
    Gen.MemOps.argmaxU8Avx2Arrays = [("x", "u16", "32")] ∧ Gen.MemOps.maxU8Avx2Arrays = [("x", "u8", "32")] ∧
    Gen.MemOps.encodeSse2Arrays = [("x", "u8", "16")] ∧ Gen.MemOps.argmaxSse2Arrays = [("outptr", "u32", "C")] ∧
    Gen.MemOps.encodeAvx2Arrays = [] ∧ Gen.MemOps.scoreF32Avx2PermuteArrays = [] ∧
    Gen.MemOps.scoreF32Avx2GatherArrays = [] ∧ Gen.MemOps.scoreU8Avx2ShuffleArrays = [] ∧
    Gen.MemOps.scoreSse2Arrays = [] :=
  ⟨rfl, rfl, rfl, rfl, rfl, rfl, rfl, rfl, rfl, rfl, rfl⟩

/-! ## the safe public API: every kernel run of every entry point, on every backend and arm -/

/-- all four safe scoring wrappers carry the row-range check (regenerated from the source) -/
theorem rangeChecks_present :
    rangeCheckOf "score_f32_rows_into_permute" = true ∧ rangeCheckOf "score_f32_rows_into_gather" = true ∧
    rangeCheckOf "score_u8_rows_into_shuffle" = true ∧ rangeCheckOf "score_rows_into" = true := by
  decide +kernel

/-- on a given backend an entry point runs one kernel or none -/
theorem runs_nil : (∀ r ∈ ([] : List Run), r.Safe) ↔ True := iff_true_intro (List.forall_mem_nil _)

theorem runs_singleton {sz : Sizes} {l : List Access} : (∀ r ∈ [(sz, l)], Run.Safe r) ↔ Safe sz l :=
  List.forall_mem_singleton

theorem encodeRuns_safe (b : Backend) (l : Nat) : ∀ r ∈ encodeRuns b l, r.Safe := by
  unfold encodeRuns
  split <;> simp only [runs_nil, runs_singleton, encode_avx2_inbounds, encode_sse2_inbounds]

theorem stripeRuns_safe (b : Backend) (l : Nat) : ∀ r ∈ stripeRuns b l, r.Safe := by
  unfold stripeRuns
  split <;> simp only [runs_nil, runs_singleton, stripe_avx2_inbounds]

/-- `score_rows_into` / `score_into` / `score` with `f32` scores: any backend or arm, any column count
    for SSE2, any alphabet size `K ≥ 1`, any motif width, sequence length, row count, wrap and row
    range — including all those the wrappers reject -/
theorem scoreF32Runs_safe (b : Backend) (C K M L Rm W a₀ b₀ : Nat) (hK : 1 ≤ K) :
    ∀ r ∈ scoreF32Runs b C K M L Rm W a₀ b₀, r.Safe := by
  obtain ⟨c1, c2, -, c4⟩ := rangeChecks_present
  fun_cases scoreF32Runs b C K M L Rm W a₀ b₀ <;>
    simp only [runs_nil, runs_singleton, c1, c2, c4, score_f32_avx2_permute_inbounds _ _ _ _ _ _ _ hK,
      score_f32_avx2_gather_inbounds, score_sse2_inbounds]

theorem scoreU8Runs_safe (b : Backend) (K M L Rm W a₀ b₀ : Nat) (hK : 1 ≤ K) :
    ∀ r ∈ scoreU8Runs b K M L Rm W a₀ b₀, r.Safe := by
  unfold scoreU8Runs
  rw [rangeChecks_present.2.2.1]
  split <;> simp only [runs_nil, runs_singleton, score_u8_avx2_shuffle_inbounds _ _ _ _ _ _ _ hK]

theorem maxF32Runs_safe (b : Backend) (w : Which) (C rows : Nat) : ∀ r ∈ maxF32Runs b w C rows, r.Safe := by
  unfold maxF32Runs
  split <;> simp only [runs_nil, runs_singleton, argmax_f32_avx2_inbounds, max_f32_avx2_inbounds, argmax_sse2_inbounds]

theorem maxU8Runs_safe (b : Backend) (w : Which) (rows : Nat) : ∀ r ∈ maxU8Runs b w rows, r.Safe := by
  unfold maxU8Runs
  split <;> simp only [runs_nil, runs_singleton, argmax_u8_avx2_inbounds, max_u8_avx2_inbounds]

theorem scanRuns_safe (b : Backend) (K M L Rm W block : Nat) (hK : 1 ≤ K) :
    ∀ r ∈ scanRuns b K M L Rm W block, r.Safe := by
  fun_cases scanRuns b K M L Rm W block
  · exact List.forall_mem_nil _
  · unfold scanBlocks
    refine List.forall_mem_flatMap.mpr fun n _ => ?_
    by_cases h : n * block < Rm
    · rw [if_pos h]
      refine List.forall_mem_append.mpr ⟨scoreU8Runs_safe b K M L Rm W _ _ hK, ?_⟩
      split
      · exact List.forall_mem_nil _
      · exact maxU8Runs_safe b .max _
    · rw [if_neg h]; exact List.forall_mem_nil _

theorem sampleRuns_safe (b : Backend) (K L w steps : Nat) (hK : 1 ≤ K) :
    ∀ r ∈ sampleRuns b K L w steps, r.Safe := by
  intro r hr
  simp only [sampleRuns, List.mem_flatMap, List.mem_range] at hr
  obtain ⟨_, -, hr⟩ := hr
  exact scoreF32Runs_safe b 32 K w L _ w 0 _ hK r hr

theorem denseRuns_safe (C size rows : Nat) (hs : 0 < size) : ∀ r ∈ denseRuns C size rows, r.Safe := by
  simp [denseRuns, Run.Safe, fill_inbounds _ _ _ hs]

/-- when all runs are safe the driver, which prints `firstBadRun`, prints nothing -/
theorem firstBadRun_none (rs : List Run) (h : ∀ r ∈ rs, r.Safe) : firstBadRun rs = none := by
  induction rs with
  | nil => rfl
  | cons r rs ih =>
    show (match firstBad r.1 r.2 with | some a => some (a, r.1 a.buf) | none => firstBadRun rs) = none
    rw [(firstBad_none_iff r.1 r.2).mpr (h r List.mem_cons_self)]
    exact ih fun r' hr' => h r' (List.mem_cons_of_mem _ hr')

/-! ### the full statement, and what of it is proved

  `Statement`: the property as given — no access of the LIBRARY outside live allocations, for every
  in-contract call sequence.  What is proved (`C06_partial` below, from the per-kernel theorems above) is
  the part of it that is arithmetic over the sizes: every access of every `unsafe` block of avx2.rs /
  sse2.rs / dense.rs::fill, as modelled by LMV/Mem from the regenerated intrinsic tables and the
  hand-mirrored loop structure.  Not covered by a theorem (see tools/props/C06.json): reads of
  uninitialised memory behind `set_len` / `uninitialized`, the allocator honouring `align(32)`,
  `generic-array` / `rand` / std internals, the Python FFI, NEON. -/

/-- the accesses an execution of the library really performs are not a Lean object; the full
    statement is therefore relative to an abstract trace semantics `exec` of API calls -/
def Statement (Call : Type) (exec : Call → List Run) : Prop := ∀ c : Call, ∀ r ∈ exec c, r.Safe

/-- the modelled API: one call = one entry point with its sizes; the proofs carried (`hK`, `hs`) are
    the in-contract side conditions of `Statement` -/
inductive Call
  | encode (b : Backend) (l : Nat)
  | stripe (b : Backend) (l : Nat)
  | scoreF32 (b : Backend) (C K M L Rm W a₀ b₀ : Nat) (hK : 1 ≤ K)
  | scoreU8 (b : Backend) (K M L Rm W a₀ b₀ : Nat) (hK : 1 ≤ K)
  | maxF32 (b : Backend) (w : Which) (C rows : Nat)
  | maxU8 (b : Backend) (w : Which) (rows : Nat)
  | scan (b : Backend) (K M L Rm W block : Nat) (hK : 1 ≤ K)
  | sample (b : Backend) (K L w steps : Nat) (hK : 1 ≤ K)
  | dense (C size rows : Nat) (hs : 0 < size)

def Call.runs : Call → List Run
  | .encode b l => encodeRuns b l
  | .stripe b l => stripeRuns b l
  | .scoreF32 b C K M L Rm W a₀ b₀ _ => scoreF32Runs b C K M L Rm W a₀ b₀
  | .scoreU8 b K M L Rm W a₀ b₀ _ => scoreU8Runs b K M L Rm W a₀ b₀
  | .maxF32 b w C rows => maxF32Runs b w C rows
  | .maxU8 b w rows => maxU8Runs b w rows
  | .scan b K M L Rm W block _ => scanRuns b K M L Rm W block
  | .sample b K L w steps _ => sampleRuns b K L w steps
  | .dense C size rows _ => denseRuns C size rows

/-- **C06 (partial: for the access models of LMV/Mem)**: the statement holds with the modelled
    semantics of the API; hence also for every finite SEQUENCE of calls, since each call's accesses
    depend only on the sizes of the objects it is given (histories change sizes, and the theorem is
    for all sizes) -/
theorem C06_partial : Statement Call Call.runs := by
  intro c
  cases c with
  | encode b l => exact encodeRuns_safe b l
  | stripe b l => exact stripeRuns_safe b l
  | scoreF32 b C K M L Rm W a₀ b₀ hK => exact scoreF32Runs_safe b C K M L Rm W a₀ b₀ hK
  | scoreU8 b K M L Rm W a₀ b₀ hK => exact scoreU8Runs_safe b K M L Rm W a₀ b₀ hK
  | maxF32 b w C rows => exact maxF32Runs_safe b w C rows
  | maxU8 b w rows => exact maxU8Runs_safe b w rows
  | scan b K M L Rm W block hK => exact scanRuns_safe b K M L Rm W block hK
  | sample b K L w steps hK => exact sampleRuns_safe b K L w steps hK
  | dense C size rows hs => exact denseRuns_safe C size rows hs

theorem C06_partial_histories (calls : List Call) : ∀ c ∈ calls, ∀ r ∈ c.runs, r.Safe :=
  fun c _ => C06_partial c

/-- **C06 for the modelled kernels**: whatever the sizes — sequence length, motif width, alphabet size
    `K ≥ 1`, column count, rows of the sequence matrix, wrap rows, row range, rows of the score
    matrix, block size, number of sampler steps — and whatever the backend or dispatcher arm, every
    memory access of every unsafe kernel executed by `encode*`, `stripe*`, `score*`, `max`, `argmax`,
    `threshold`, `Scanner`, `Sampler` and `DenseMatrix::fill` lies inside the buffer it was given and
    every aligned access is aligned (buffers laid out as in C19).  `denseRuns` is three `fill` runs;
    `uninitialized`, `from_rows` and `encode_raw` have no access model. -/
theorem api_inbounds (b : Backend) (w : Which) (C K M L Rm W a₀ b₀ rows block steps size : Nat)
    (hK : 1 ≤ K) (hs : 0 < size) :
    ∀ r ∈ encodeRuns b L ++ stripeRuns b L ++ scoreF32Runs b C K M L Rm W a₀ b₀ ++
          scoreU8Runs b K M L Rm W a₀ b₀ ++ maxF32Runs b w C rows ++ maxU8Runs b w rows ++
          scanRuns b K M L Rm W block ++ sampleRuns b K L M steps ++ denseRuns C size rows, r.Safe := by
  simp only [List.forall_mem_append]
  exact ⟨⟨⟨⟨⟨⟨⟨⟨C06_partial (.encode b L), C06_partial (.stripe b L)⟩,
    C06_partial (.scoreF32 b C K M L Rm W a₀ b₀ hK)⟩, C06_partial (.scoreU8 b K M L Rm W a₀ b₀ hK)⟩,
    C06_partial (.maxF32 b w C rows)⟩, C06_partial (.maxU8 b w rows)⟩,
    C06_partial (.scan b K M L Rm W block hK)⟩, C06_partial (.sample b K L M steps hK)⟩,
    C06_partial (.dense C size rows hs)⟩

/-- a scan of 70 rows (+4 wrap rows) in blocks of 16 on the AVX2 arm runs 5 scoring kernels and 5
    reductions; a sampler of 3 steps runs 3 scoring kernels -/
example : (scanRuns .dispAvx2 5 5 2240 74 4 16).length = 10 ∧ (sampleRuns .dispAvx2 21 100 8 3).length = 3 := by
  decide +kernel

end C06
end LMV
