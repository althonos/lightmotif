/-
  C18 — Python indexing and buffer views expose exactly the logical contents.

  The model (LMV.Model.PyView) mirrors the glue of lightmotif-py/lightmotif/lib.rs as it is in /repo;
  where the pinned commit differs (data indexed with the raw index, `shape` of `ScoringMatrix`
  transposed, a sequence reconfigured under an exported view) its variant is kept next to it with a
  counterexample.  `ViewOp` / `ViewState` (exports, releases and reuses of one sequence, the model
  under `views_never_stale`) are model definitions kept in this file; the correspondence run does not
  execute them (Driver/C18 checks one export and one `calculate` through `staleAdmissible` only), so
  they are tied to `__getbuffer__` / `__releasebuffer__` by reading.
-/
import LMV.Model.PyView
import LMV.Lemmas.Dense

namespace LMV
namespace C18

open PyView Dense

/-! ### indexing: every `__getitem__` is Python sequence indexing -/

theorem normIndex_spec (len : Nat) (index : Int) :
    normIndex len index =
      if -(len : Int) ≤ index ∧ index < len then some (index % (len : Int)).toNat else none := by
  unfold normIndex
  by_cases h : -(len : Int) ≤ index ∧ index < len
  · rw [if_pos h]
    by_cases hneg : index < 0
    · have hb : 0 ≤ index + len := Int.add_nonneg_iff_neg_le.mpr h.1
      have hc : index + len < len := Int.add_lt_of_lt_sub_right (Int.sub_self _ ▸ hneg)
      rw [if_pos hneg, if_neg (not_or.mpr ⟨Int.not_lt.mpr hb, Int.not_le.mpr hc⟩), ← Int.add_emod_right index len,
        Int.emod_eq_of_lt hb hc]
    · rw [if_neg hneg, if_neg (not_or.mpr ⟨hneg, Int.not_le.mpr h.2⟩), Int.emod_eq_of_lt (Int.not_lt.mp hneg) h.2]
  · -- `omega` splits on the `if index < 0` of the normalised index
    rw [if_neg h, if_pos (by omega)]

example : normIndex 5 (-5) = some 0 ∧ normIndex 5 4 = some 4 ∧ normIndex 5 5 = none ∧
    normIndex 5 (-6) = none ∧ normIndex 0 0 = none ∧ normIndex 0 (-1) = none := by decide +kernel

theorem emod_toNat_lt (len : Nat) (index : Int) (h : -(len : Int) ≤ index ∧ index < len) :
    (index % (len : Int)).toNat < len := by
  have hpos : 0 < len := by omega
  exact (Int.toNat_lt' hpos).mpr (Int.emod_lt_of_pos index (Int.natCast_pos.mpr hpos))

theorem normIndex_lt {len : Nat} {index : Int} {i : Nat} (h : normIndex len index = some i) : i < len := by
  rw [normIndex_spec] at h
  split at h
  · cases h; exact emod_toNat_lt len index ‹_›
  · cases h

/-- C18, indexing: for every list-like object (`EncodedSequence`, `CountMatrix`, `WeightMatrix`,
    `ScoringMatrix`), every length and every integer a `Py_ssize_t` can hold, `obj[index]` is the
    element `index mod len` when `-len ≤ index < len` and `IndexError` otherwise -/
theorem getitem_spec {α : Type} (xs : List α) (index : Int) (hfit : fitsSsize index = true) :
    getitem xs index =
      if h : -(xs.length : Int) ≤ index ∧ index < xs.length then
        .ok (xs[(index % (xs.length : Int)).toNat]'(emod_toNat_lt xs.length index h))
      else .indexError := by
  unfold getitem
  rw [if_pos hfit, normIndex_spec]
  by_cases h : -(xs.length : Int) ≤ index ∧ index < xs.length
  · rw [if_pos h, dif_pos h]
    have hlt := emod_toNat_lt xs.length index h
    simp only [List.getElem?_eq_getElem hlt]
  · rw [if_neg h, dif_neg h]

/-- … and it never panics -/
theorem getitem_never_panics {α : Type} (xs : List α) (index : Int) (site : String) :
    getitem xs index ≠ .panic site := by
  fun_cases getitem xs index
  -- the exit that panics, `xs[i]? = none`: but the normalised index `i` is below the length
  case case3 i hi hn => exact absurd (List.getElem?_eq_none_iff.mp hn) (Nat.not_le_of_lt (normIndex_lt hi))
  all_goals intro h; cases h

/-- Python's reading of a negative index: `obj[-k]` is `obj[len - k]` -/
theorem getitem_negative {α : Type} (xs : List α) (k : Nat) (hk : 0 < k) (hk' : k ≤ xs.length)
    (hfit : fitsSsize (-(k : Int)) = true) :
    getitem xs (-(k : Int)) = .ok (xs[xs.length - k]'(by omega)) := by
  have h : -(xs.length : Int) ≤ -(k : Int) ∧ -(k : Int) < xs.length := by omega
  have e : (-(k : Int) % (xs.length : Int)).toNat = xs.length - k := by
    -- `-k % len = (len - k) % len = len - k`, the latter as `0 ≤ len - k < len`
    rw [← Int.add_emod_right, Int.add_comm, ← Int.sub_eq_add_neg, Int.emod_eq_of_lt
      (Int.sub_nonneg_of_le (Int.ofNat_le.mpr hk')) (Int.sub_lt_self _ (Int.natCast_pos.mpr hk)), Int.toNat_sub]
  rw [getitem_spec xs _ hfit, dif_pos h]
  simp only [e]

example : getitem [10, 20, 30] (-1) = .ok 30 ∧ getitem [10, 20, 30] (-3) = .ok 10 ∧
    getitem [10, 20, 30] 2 = .ok 30 ∧ getitem [10, 20, 30] 3 = .indexError ∧
    getitem [10, 20, 30] (-4) = .indexError ∧ getitem ([] : List Nat) 0 = .indexError ∧
    getitem [10, 20, 30] ((2:Int)^63) = .overflowError := by decide +kernel

/-- the pinned commit (`self.data.get(index as usize)` after the bounds check on the normalised
    index): EVERY in-range negative index panics -/
theorem getitemUnnormalised_negative_panics {α : Type} (xs : List α) (index : Int)
    (hlen : xs.length < 2 ^ 63) (hlo : -(xs.length : Int) ≤ index) (hneg : index < 0)
    (hfit : fitsSsize index = true) :
    getitemUnnormalised xs index = .panic "index out of bounds" := by
  unfold getitemUnnormalised
  rw [if_pos hfit, normIndex_spec]
  rw [if_pos ⟨hlo, Int.lt_of_lt_of_le hneg (Int.natCast_nonneg _)⟩]
  simp only [hneg, if_true]
  have hbig : xs.length ≤ (index + (2:Int)^64).toNat := by
    omega
  simp only [List.getElem?_eq_none hbig]

theorem getitemUnnormalised_counterexample :
    ∃ (xs : List Nat) (index : Int), -(xs.length : Int) ≤ index ∧ index < xs.length ∧
      getitemUnnormalised xs index = .panic "index out of bounds" :=
  ⟨[7, 8, 9], -1, by decide, by decide, rfl⟩

/-- C18, `StripedScores`: with `max_index ≤ rows · cols` (the positions fit the score matrix — what
    the core guarantees for a motif of at least one row), `scores[index]` is the score of position
    `index mod len`, stored at row `i % rows`, column `i / rows` of the striped matrix (the cell whose
    column-major position is `i`); `IndexError` outside `-len ≤ index < len`; no panic -/
theorem scoresGetitem_spec {α : Type} (rows cols maxIndex : Nat) (cell : Nat → Nat → α) (index : Int)
    (hfit : fitsSsize index = true) (hcap : maxIndex ≤ rows * cols) :
    scoresGetitem rows cols maxIndex cell index =
      if -(maxIndex : Int) ≤ index ∧ index < maxIndex then
        .ok (cell ((index % (maxIndex : Int)).toNat % rows) ((index % (maxIndex : Int)).toNat / rows))
      else .indexError := by
  unfold scoresGetitem
  rw [if_pos hfit, normIndex_spec]
  by_cases h : -(maxIndex : Int) ≤ index ∧ index < maxIndex
  · -- the position is below `maxIndex ≤ rows · cols`: there are rows, and its column exists
    have hlt := Nat.lt_of_lt_of_le (emod_toNat_lt maxIndex index h) hcap
    have hr : rows ≠ 0 := fun h0 => by simp [h0] at hlt
    rw [if_pos h, if_pos h]
    simp only [hr, if_false, if_pos (Nat.div_lt_of_lt_mul hlt)]
  · rw [if_neg h, if_neg h]

/-- the cell returned for position `i` is the one whose column-major position is `i` -/
theorem scores_cell_position (rows i : Nat) : (i / rows) * rows + i % rows = i := by
  rw [Nat.mul_comm]; exact Nat.div_add_mod i rows

theorem scoresGetitem_never_panics {α : Type} (rows cols maxIndex : Nat) (cell : Nat → Nat → α)
    (index : Int) (hcap : maxIndex ≤ rows * cols) (site : String) :
    scoresGetitem rows cols maxIndex cell index ≠ .panic site := by
  by_cases hfit : fitsSsize index = true
  · rw [scoresGetitem_spec rows cols maxIndex cell index hfit hcap]
    split <;> simp
  · unfold scoresGetitem
    rw [if_neg hfit]; simp

example : scoresGetitem 4 32 115 (fun r c => c * 4 + r) (-1) = .ok 114 ∧
    scoresGetitem 4 32 115 (fun r c => c * 4 + r) 115 = .indexError ∧
    scoresGetitem 4 32 115 (fun r c => c * 4 + r) (-116) = .indexError := by decide +kernel

/-! ### what a byte offset into a `DenseMatrix` designates -/

/-- byte `b` of element `(i, j)` is at offset `i · pitch + j · size + b`; `hp`: the pitch covers a row -/
theorem elem_inside {rows cols size pitch i j b : Nat} (hi : i < rows) (hj : j < cols) (hb : b < size)
    (hp : cols * size ≤ pitch) : i * pitch + j * size + b < rows * pitch := by
  rw [Nat.add_assoc]
  exact pos_lt hi (Nat.lt_of_lt_of_le (pos_lt hj hb) hp)

theorem cellAt_elem {rows cols size pitch i j b : Nat} (hi : i < rows) (hj : j < cols) (hb : b < size)
    (hp : cols * size ≤ pitch) :
    cellAt rows cols size pitch (i * pitch + j * size + b) = .elem i j b := by
  have hq : j * size + b < cols * size := pos_lt hj hb
  have hqp : j * size + b < pitch := Nat.lt_of_lt_of_le hq hp
  unfold cellAt
  rw [if_pos (elem_inside hi hj hb hp), Nat.add_assoc, pos_mod pitch i _ hqp, if_pos hq,
    pos_div pitch i _ hqp, pos_div size j b hb, pos_mod size j b hb]

theorem elemAt_elem {rows cols size pitch i j : Nat} (hi : i < rows) (hj : j < cols) (hs : 0 < size)
    (hp : cols * size ≤ pitch) :
    elemAt rows cols size pitch (i * pitch + j * size) = some (i, j) := by
  unfold elemAt
  have h0 := cellAt_elem (b := 0) hi hj hs hp
  rw [Nat.add_zero] at h0
  have h1 := cellAt_elem (b := size - 1) hi hj (Nat.sub_lt hs Nat.one_pos) hp
  rw [h0, Nat.add_sub_assoc hs, h1]
  simp

theorem elemAt_elem_inside {rows cols size pitch i j : Nat} (hi : i < rows) (hj : j < cols) (hs : 0 < size)
    (hp : cols * size ≤ pitch) :
    elemAt rows cols size pitch (i * pitch + j * size) = some (i, j) ∧
      i * pitch + j * size + size ≤ rows * pitch := by
  refine ⟨elemAt_elem hi hj hs hp, ?_⟩
  rw [Nat.add_assoc]
  exact pos_add_le hi (Nat.le_trans (pos_add_le hj (Nat.le_refl size)) hp)

/-! ### the exported views -/

/-- C18, `ScoringMatrix`: the view has the shape of the matrix, and for every `(i, j)` in shape the
    item at byte offset `i·strides₀ + j·strides₁` is entry `(i, j)` of the matrix in the C19 layout,
    wholly inside the row storage — for every row count, every column count (5 and 21 in the
    module: row pitches 32 and 96 bytes, so padding exists) and every alignment the element size divides -/
theorem scoring_view_exact (rows cols align i j : Nat) (ha : 0 < align) (hd : 4 ∣ align)
    (hi : i < (scoringView rows cols align).shape0) (hj : j < (scoringView rows cols align).shape1) :
    (scoringView rows cols align).shape0 = rows ∧ (scoringView rows cols align).shape1 = cols ∧
    elemAt rows cols 4 (rowBytes cols 4 align) ((scoringView rows cols align).offset i j) = some (i, j) ∧
    (scoringView rows cols align).offset i j + (scoringView rows cols align).itemsize
      ≤ rows * rowBytes cols 4 align := by
  refine ⟨rfl, rfl, ?_⟩
  simp only [scoringView, View2.offset, stride_mul_size cols 4 align hd]
  exact elemAt_elem_inside hi hj (by decide) (rowBytes_ge cols 4 align ha)

example : (scoringView 15 5 32).shape0 = 15 ∧ (scoringView 15 5 32).stride0 = 32 ∧
    elemAt 15 5 4 32 ((scoringView 15 5 32).offset 14 4) = some (14, 4) := by decide +kernel

/-- the pinned commit exported `shape = [cols, rows]` over the same strides: in a 15 × 5 matrix, item
    `[0][5]` of that view is alignment padding and item `[0][8]` is entry `(1, 0)` -/
theorem scoringViewAsIs_counterexample :
    5 < (scoringViewAsIs 15 5 32).shape1 ∧
    cellAt 15 5 4 (rowBytes 5 4 32) ((scoringViewAsIs 15 5 32).offset 0 5) = .pad ∧
    elemAt 15 5 4 (rowBytes 5 4 32) ((scoringViewAsIs 15 5 32).offset 0 8) = some (1, 0) := by decide +kernel

/-- C18, `StripedScores`: item `[c][r]` of the view is the score at (column `c`, row `r`), inside the
    row storage -/
theorem scores_view_exact (rows cols align c r : Nat) (ha : 0 < align) (hd : 4 ∣ align)
    (hc : c < (scoresView cols rows align).shape0) (hr : r < (scoresView cols rows align).shape1) :
    (scoresView cols rows align).shape0 = cols ∧ (scoresView cols rows align).shape1 = rows ∧
    elemAt rows cols 4 (rowBytes cols 4 align) ((scoresView cols rows align).offset c r) = some (r, c) ∧
    (scoresView cols rows align).offset c r + (scoresView cols rows align).itemsize
      ≤ rows * rowBytes cols 4 align := by
  refine ⟨rfl, rfl, ?_⟩
  simp only [scoresView, View2.offset, stride_mul_size cols 4 align hd, Nat.add_comm (c * 4)]
  exact elemAt_elem_inside hr hc (by decide) (rowBytes_ge cols 4 align ha)

example : elemAt 4 32 4 128 ((scoresView 32 4 32).offset 31 3) = some (3, 31) := by decide +kernel

/-- C18, the `len` field of the 2-D exports -/
theorem view_len (rows cols align : Nat) :
    (scoringView rows cols align).len
      = (scoringView rows cols align).shape0 * (scoringView rows cols align).shape1 * (scoringView rows cols align).itemsize ∧
    (scoresView cols rows align).len
      = (scoresView cols rows align).shape0 * (scoresView cols rows align).shape1 * (scoresView cols rows align).itemsize ∧
    (stripedView cols rows align).len
      = (stripedView cols rows align).shape0 * (stripedView cols rows align).shape1 * (stripedView cols rows align).itemsize := by
  simp [scoringView, scoresView, stripedView]

/-- C18, one-dimensional exports: item `i` of `memoryview(EncodedSequence)` is symbol `i`, item `i` of
    `memoryview(ScoreDistribution)` is value `i` of the survival function; the views have exactly
    `n` items -/
theorem flat_views_exact (n i : Nat) (hi : i < n) :
    (encView n).items = n ∧ elemAt n 1 1 1 ((encView n).offset i) = some (i, 0) ∧
    (distView n).items = n ∧ elemAt n 1 8 8 ((distView n).offset i) = some (i, 0) ∧
    (distView n).offset i + 8 ≤ (distView n).len := by
  refine ⟨by simp [encView, View1.items], ?_, by simp [distView, View1.items], ?_, ?_⟩
  · have := elemAt_elem (cols := 1) (size := 1) (pitch := 1) (j := 0) hi
      (by decide) (by decide) (by decide)
    simpa [encView, View1.offset] using this
  · have := elemAt_elem (cols := 1) (size := 8) (pitch := 8) (j := 0) hi
      (by decide) (by decide) (by decide)
    simpa [distView, View1.offset] using this
  · exact pos_add_le hi (Nat.le_refl 8)

example : (distView 6001).items = 6001 ∧ elemAt 6001 1 8 8 ((distView 6001).offset 6000) = some (6000, 0) := by
  decide +kernel

/-! ### one striped sequence reused for scoring: every history -/

/-- the relation between the cached shape and the matrix -/
def _root_.LMV.PyView.PySeq.Inv (s : PySeq) (cols R : Nat) : Prop :=
  s.cols = cols ∧ s.shapeRows = R ∧ s.shapeRows + s.wrap = s.dataRows

theorem _root_.LMV.PyView.PySeq.configure_inv (s : PySeq) (cols R M : Nat) (h : s.Inv cols R) :
    (s.configure M).Inv cols R := by
  fun_cases PySeq.configure s M
  -- look-ahead rows are added: `wrap` and `dataRows` grow by the same `M - 1 - wrap`
  case case2 => exact ⟨h.1, h.2.1, by rw [← h.2.2, Nat.add_right_comm, Nat.add_sub_cancel]⟩
  all_goals exact h

theorem _root_.LMV.PyView.PySeq.run_inv (Ms : List Nat) (s : PySeq) (cols R : Nat) (h : s.Inv cols R) :
    (s.run Ms).Inv cols R := by
  induction Ms generalizing s with
  | nil => exact h
  | cons M Ms ih => exact ih (s.configure M) (s.configure_inv cols R M h)

/-- C18, histories: after ANY sequence of `calculate` / `Scanner` calls with motifs of any widths
    (increasing, decreasing, zero), a view of the striped sequence still has shape
    `[cols, R]`, and its item `[c][r]` is the symbol at (column `c`, row `r`) of the matrix, inside the
    row storage; the look-ahead rows added meanwhile are never visible -/
theorem reuse_view_exact (cols R align : Nat) (Ms : List Nat) (c r : Nat) (ha : 0 < align)
    (hc : c < cols) (hr : r < R) :
    ((PySeq.fresh cols R).run Ms).view align = stripedView cols R align ∧
    ((PySeq.fresh cols R).run Ms).viewCell align c r = .elem r c 0 ∧
    ((stripedView cols R align).offset c r) < ((PySeq.fresh cols R).run Ms).dataRows * rowBytes cols 1 align := by
  obtain ⟨h1, h2, h3⟩ := (PySeq.fresh cols R).run_inv Ms cols R ⟨rfl, rfl, rfl⟩
  have hp := rowBytes_ge cols 1 align ha
  have hs := stride_mul_size cols 1 align (Nat.one_dvd align)
  have hrow : r < ((PySeq.fresh cols R).run Ms).dataRows := by rw [← h3, h2]; exact Nat.lt_add_right _ hr
  have hoff : (stripedView cols R align).offset c r = r * rowBytes cols 1 align + c * 1 + 0 := by
    simp only [stripedView, View2.offset, Nat.one_mul]
    rw [Nat.mul_one] at hs
    rw [hs]; exact Nat.add_comm _ _
  refine ⟨by simp [PySeq.view, h1, h2], ?_, ?_⟩
  · simp only [PySeq.viewCell, PySeq.view, h1, h2, hoff]
    exact cellAt_elem (size := 1) (b := 0) hrow hc Nat.one_pos hp
  · rw [hoff]
    exact elem_inside (size := 1) (b := 0) hrow hc Nat.one_pos hp

example : ((PySeq.fresh 32 4).run [6, 2, 21, 3]).dataRows = 24 ∧
    ((PySeq.fresh 32 4).run [6, 2, 21, 3]).view 32 = stripedView 32 4 32 ∧
    ((PySeq.fresh 32 4).run [6, 2, 21, 3]).viewCell 32 31 3 = .elem 3 31 0 := by decide +kernel

/-! ### views exported before the object is reused

  The property also quantifies over views taken BEFORE the object is reused for scoring.  For those
  it is false at the pinned commit (`Variant.asIs`, `stale_view_counterexample`); the library's fix
  (/repo 34d1e9e, `Variant.repaired`: the sequence counts its exported buffers and refuses to add
  look-ahead rows while one is alive) makes it true for every history of exports, releases and
  reuses (`stale_view_repaired`, `views_never_stale`). -/

/-- what `calculate` does to the fields the views depend on: the export count is kept, and the block
    changes only if the storage grows — which `Variant.repaired` refuses while a view is exported -/
theorem calculate_frame {v : Variant} {moves : Bool} {o o' : PyObj} {M : Nat}
    (h : PyObj.calculate v moves o M = .ok o') :
    o'.exports = o.exports ∧
      (o'.block = o.block ∨ (o.seq.grows M = true ∧ (v = .repaired → o.exports = 0))) := by
  revert h
  fun_cases PyObj.calculate v moves o M
  all_goals intro h; cases h
  -- the storage grows, `.repaired` with no view exported (`he`); it grows, `.asIs`; it does not grow
  case case2 hg he => exact ⟨rfl, .inr ⟨hg, fun _ => Nat.eq_zero_of_not_pos he⟩⟩
  case case3 hg => exact ⟨rfl, .inr ⟨hg, fun h => by cases h⟩⟩
  case case4 => exact ⟨rfl, .inl rfl⟩

/-- exported views, one step: whatever the allocator does, a view exported from a fresh object still
    points into the storage of the object after one later `calculate`.  Every history of exports,
    releases and reuses: `views_never_stale`. -/
def StaleViewStatement (v : Variant) : Prop :=
  ∀ (cols R align M : Nat) (moves : Bool) (o' : PyObj),
    PyObj.calculate v moves ((PyObj.fresh cols R).export align).1 M = .ok o' →
    ((PyObj.fresh cols R).export align).2.valid o'

/-- the pinned commit: a view of a 250-row sequence exported before `calculate` with a 4000-row motif
    points into a block the object no longer owns (run on the real module: pyharness/stale_view.py) -/
theorem stale_view_counterexample : ¬ StaleViewStatement .asIs := by
  intro h
  have := h 32 250 32 4000 true _ rfl
  revert this
  decide

/-- with the reconfiguration refused while a view is exported, every exported view stays valid -/
theorem stale_view_repaired : StaleViewStatement .repaired := by
  intro cols R align M moves o' h
  obtain ⟨-, hb | ⟨-, h0⟩⟩ := calculate_frame h
  · exact hb.symm
  · cases h0 rfl

/-- what does hold at the pinned commit: a view stays valid across every `calculate` that does not grow
    the storage (motif not longer than the look-ahead rows already present) -/
theorem stale_view_partial (o : PyObj) (align M : Nat) (moves : Bool) (o' : PyObj)
    (hg : o.seq.grows M = false)
    (h : PyObj.calculate .asIs moves (o.export align).1 M = .ok o') :
    (o.export align).2.valid o' := by
  obtain ⟨-, hb | ⟨hg', -⟩⟩ := calculate_frame h
  · exact hb.symm
  · -- `hg'` speaks of `(o.export align).1.seq`, which reduces to `o.seq`
    exact absurd (hg.symm.trans hg') (by decide)

example : (PySeq.fresh 32 4).grows 6 = true ∧ ((PySeq.fresh 32 4).configure 6).grows 3 = false ∧
    staleAdmissible .asIs (PySeq.fresh 32 4) 6 = ["same", "differs"] := by decide +kernel

/-! ### every history of exports, releases and reuses (`Variant.repaired`) -/

/-- what a Python program can do with one striped sequence and its views.
    mirrors: lightmotif-py/lightmotif/lib.rs::StripedSequence::{__getbuffer__, __releasebuffer__}
    (the export count) and `configure` under `calculate` / `Scanner`; not run by the driver. -/
inductive ViewOp where
  | export (align : Nat)              -- `memoryview(seq)`
  | release (i : Nat)                 -- `view.release()` / the view is collected (the i-th live one)
  | reuse (M : Nat) (moves : Bool)    -- `calculate` / `Scanner` / `scan` with a motif of `M` rows; `moves` =
                                      -- the allocator's choice if the storage grows
deriving Repr

structure ViewState where
  obj : PyObj
  live : List Exported

def ViewState.step (s : ViewState) : ViewOp → ViewState
  | .export a => ⟨(s.obj.export a).1, (s.obj.export a).2 :: s.live⟩
  | .release i =>
    if i < s.live.length then ⟨{ s.obj with exports := s.obj.exports - 1 }, s.live.eraseIdx i⟩ else s
  | .reuse M moves =>
    match PyObj.calculate .repaired moves s.obj M with
    | .ok o' => ⟨o', s.live⟩
    | .error _ => s                   -- `BufferError`: the object is left as it was

def ViewState.Inv (s : ViewState) : Prop :=
  s.obj.exports = s.live.length ∧ ∀ e ∈ s.live, e.valid s.obj

theorem ViewState.step_inv (s : ViewState) (op : ViewOp) (h : s.Inv) : (s.step op).Inv := by
  obtain ⟨hc, hv⟩ := h
  fun_cases ViewState.step s op
  -- an export; the release of a live view; a reuse that is accepted; otherwise the state is unchanged
  case case1 a => exact ⟨congrArg (· + 1) hc, List.forall_mem_cons.mpr ⟨rfl, hv⟩⟩
  case case2 i hi =>
    exact ⟨by rw [List.length_eraseIdx, if_pos hi]; exact congrArg (· - 1) hc,
      fun e he => hv e (List.mem_of_mem_eraseIdx he)⟩
  case case4 o' ho =>
    obtain ⟨he, hb | ⟨-, h0⟩⟩ := calculate_frame ho
    · exact ⟨he.trans hc, fun e he' => (hv e he').trans hb.symm⟩
    · have : s.live = [] := List.length_eq_zero_iff.mp (hc ▸ h0 rfl)
      exact ⟨he.trans hc, by simp [this]⟩
  all_goals exact ⟨hc, hv⟩

/-- **C18, views taken before the object is reused, every history.**  Whatever a program does with
    one striped sequence — export views, release them in any order, reuse the sequence with motifs of any
    widths, whatever the allocator does when the storage grows — every view that is still alive points
    into the storage the object owns (so it shows the logical contents, by `reuse_view_exact`), and the
    object's export count is the number of live views. -/
theorem views_never_stale (cols R : Nat) (ops : List ViewOp) :
    (ops.foldl ViewState.step ⟨PyObj.fresh cols R, []⟩).Inv :=
  ops.foldlRecOn _ ⟨rfl, by simp⟩ fun s hs op _ => s.step_inv op hs

/-- a history in which a reuse is refused (a view is alive), then allowed (released), and in which the
    storage moves while no view is alive -/
example :
    let s := [ViewOp.export 32, .reuse 4000 true, .release 0, .reuse 4000 true, .export 32, .reuse 3 true].foldl
      ViewState.step ⟨PyObj.fresh 32 250, []⟩
    s.obj.block = 1 ∧ s.live.length = 1 ∧ s.obj.exports = 1 ∧ s.obj.seq.dataRows = 250 + 3999 := by decide +kernel

end C18
end LMV
