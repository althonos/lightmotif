/-  Bridge §B1 — see LMV/Props/Bridge.lean for the overview  -/
import LMV.Props.C01
import LMV.Props.C07
import LMV.Props.C08

namespace LMV
namespace Bridge

open Striped (pad)
open C04 (Inv seqRowsOf seqRowsOf_mul_ge seqRowsOf_pos)
open Maximum (Cmp Coord)

/-! ## §B1  the padding clause of C07 about the scoring model of C01 -/

section B1
variable {β : Type} {C K : Nat}

/-- C07 reads the padded sequence through `padSym` (a function, a length, the wildcard), C01 and C04
    through `pad` (a list, the wildcard): the same read -/
theorem padSym_eq_pad (N : Nat) (s : List Nat) (p : Nat) :
    C07.padSym (fun q => s.getD q N) s.length N p = pad N s p := by
  fun_cases C07.padSym (fun q => s.getD q N) s.length N p with
  | case1 => rfl
  | case2 h => exact (Striped.pad_of_le N s p (Nat.le_of_not_lt h)).symm

/-- **B1 (i): the two window scores are the same function.**  C07's definition-level score of the
    window at `i` — over the matrix read through `getD`, `M = pssm.rows`, the padded sequence — is
    C01's `windowScore`, the value C01 proves every backend computes.  Any carrier, no law. -/
theorem windowScore_eq (zero : β) (add : β → β → β) (pssm : Mat β K) (N : Nat) (s : List Nat) (i : Nat) :
    C07.windowScore add zero (fun j a => pssm.getD j a zero) pssm.rows
        (C07.padSym (fun q => s.getD q N) s.length N) i
      = C01.windowScore zero add pssm N s i := by
  unfold C07.windowScore C01.windowScore Score.cellSum
  apply foldl_ext_mem
  intro v j _
  simp only [padSym_eq_pad]

/-- `C07.windowScore_past_end`, for C01's window score -/
theorem windowScore_past_end (zero bot : β) (add : β → β → β) (hbot : ∀ x, add x bot = bot)
    (pssm : Mat β K) (N : Nat) (hNcol : ∀ j, j < pssm.rows → pssm.getD j N zero = bot)
    (hM : 1 ≤ pssm.rows) (s : List Nat) (i : Nat) (hi : s.length < i + pssm.rows) :
    C01.windowScore zero add pssm N s i = bot := by
  rw [← windowScore_eq]
  exact C07.windowScore_past_end add zero bot hbot _ pssm.rows N hNcol hM _ s.length i hi

/-- **what a full scan returns** (`score` = `score_into` on an empty buffer, rows `0..R`), as proved
    by C01: no rows when `L < M`; otherwise `R = ⌈L/C⌉` rows, `max_index = L + 1 − M`, and cell
    `(r, c)` holds C01's window score of position `c·R + r` -/
def FullScan (zero : β) (add : β → β → β) (pssm : Mat β K) (N : Nat) (s : List Nat) (C : Nat)
    (sc : Scores β C) : Prop :=
  if s.length < pssm.rows then sc.data.rows = 0 ∧ sc.maxIndex = 0
  else sc.data.rows = seqRowsOf C s.length ∧ sc.maxIndex = s.length + 1 - pssm.rows ∧
    ∀ r c, r < seqRowsOf C s.length → c < C →
      sc.data.getD r c zero = C01.windowScore zero add pssm N s (c * seqRowsOf C s.length + r)

theorem FullScan.shape {zero : β} {add : β → β → β} {pssm : Mat β K} {N : Nat} {s : List Nat}
    {sc : Scores β C} (h : FullScan zero add pssm N s C sc) (hLM : pssm.rows ≤ s.length) :
    sc.data.rows = seqRowsOf C s.length ∧ sc.maxIndex = s.length + 1 - pssm.rows ∧
      ∀ r c, r < seqRowsOf C s.length → c < C →
        sc.data.getD r c zero = C01.windowScore zero add pssm N s (c * seqRowsOf C s.length + r) := by
  unfold FullScan at h
  rwa [if_neg (Nat.not_lt_of_le hLM)] at h

theorem FullScan.rows_ne {zero : β} {add : β → β → β} {pssm : Mat β K} {N : Nat} {s : List Nat}
    {sc : Scores β C} (h : FullScan zero add pssm N s C sc) (hC : 0 < C) (hM : 1 ≤ pssm.rows)
    (hLM : pssm.rows ≤ s.length) : sc.data.rows ≠ 0 := by
  rw [(h.shape hLM).1]
  exact Nat.ne_of_gt (seqRowsOf_pos hC (Nat.lt_of_lt_of_le hM hLM))

/-- a full scan through ANY `score_rows_into` that agrees with the generic one on the full row range
    (C01 §D provides that for SSE2, AVX2 and every dispatcher arm) does not panic and returns a
    `FullScan` matrix -/
theorem fullScan_any (hC : 0 < C) (zero : β) (add : β → β → β) (pssm : Mat β K) (N : Nat)
    (seq : Striped C) (s : List Nat) (inv : Inv N seq s) (hs : ∀ x ∈ s, x < K) (hN : N < K)
    (hM : 1 ≤ pssm.rows) (hW : pssm.rows - 1 ≤ seq.wrap)
    (rowsInto : Nat → Nat → Scores β C → Except String (Scores β C))
    (heq : ∀ sc, rowsInto 0 (seq.data.rows - seq.wrap) sc =
      Score.scoreRowsGeneric zero add pssm seq 0 (seq.data.rows - seq.wrap) sc) :
    ∃ sc, Score.scoreFull rowsInto seq = .ok sc ∧ FullScan zero add pssm N s C sc := by
  obtain ⟨sc, hsc, hspec⟩ := C01.scoreFull_spec hC zero add pssm N seq s inv hs hN hW rowsInto heq
  -- with `M ≥ 1` the empty sequence is shorter than the motif
  simp only [or_iff_left_of_imp fun h0 : s.length = 0 => h0.trans_lt hM] at hspec
  exact ⟨sc, hsc, hspec⟩

theorem fullScan_generic (hC : 0 < C) (zero : β) (add : β → β → β) (pssm : Mat β K) (N : Nat)
    (seq : Striped C) (s : List Nat) (inv : Inv N seq s) (hs : ∀ x ∈ s, x < K) (hN : N < K)
    (hM : 1 ≤ pssm.rows) (hW : pssm.rows - 1 ≤ seq.wrap) :
    ∃ sc, Score.scoreFull (Score.scoreRowsGeneric zero add pssm seq) seq = .ok sc ∧
      FullScan zero add pssm N s C sc :=
  fullScan_any hC zero add pssm N seq s inv hs hN hM hW _ (fun _ => rfl)

/-- the SSE2 backend, any multiple of 16 columns (needs `add x zero = x`, as in C01) -/
theorem fullScan_sse2 (hC : 0 < C) (h16 : 16 ∣ C) (zero : β) (add : β → β → β)
    (hz : ∀ x, add x zero = x) (pssm : Mat β K) (N : Nat)
    (seq : Striped C) (s : List Nat) (inv : Inv N seq s) (hs : ∀ x ∈ s, x < K) (hN : N < K)
    (hM : 1 ≤ pssm.rows) (hW : pssm.rows - 1 ≤ seq.wrap) :
    ∃ sc, Score.scoreFull (Score.Sse2.score zero add pssm seq) seq = .ok sc ∧
      FullScan zero add pssm N s C sc :=
  fullScan_any hC zero add pssm N seq s inv hs hN hM hW _
    (fun sc => C01.scoreSse2_eq_generic zero add hz pssm h16 seq 0 _ sc hM hW (Nat.le_refl _)
      (C01.symOK_of_inv N seq s inv hs hN))

/-- the AVX2 backend (permute kernel for `K ≤ 8`, gather otherwise) -/
theorem fullScan_avx2 (zero : β) (add : β → β → β) (pssm : Mat β K) (hK : K ≤ 256) (N : Nat)
    (seq : Striped 32) (s : List Nat) (inv : Inv N seq s) (hs : ∀ x ∈ s, x < K) (hN : N < K)
    (hM : 1 ≤ pssm.rows) (hW : pssm.rows - 1 ≤ seq.wrap) :
    ∃ sc, Score.scoreFull (Score.Avx2.scoreF32 zero add pssm seq) seq = .ok sc ∧
      FullScan zero add pssm N s 32 sc :=
  fullScan_any (by decide) zero add pssm N seq s inv hs hN hM hW _
    (fun sc => C01.scoreF32Avx2_eq_generic zero add pssm hK seq 0 _ sc hM hW (Nat.le_refl _)
      (C01.symOK_of_inv N seq s inv hs hN))

theorem fullScan_dispatch (arm : Score.Arm) (zero : β) (add : β → β → β) (hz : ∀ x, add x zero = x)
    (pssm : Mat β K) (hK : K ≤ 256) (N : Nat)
    (seq : Striped 32) (s : List Nat) (inv : Inv N seq s) (hs : ∀ x ∈ s, x < K) (hN : N < K)
    (hM : 1 ≤ pssm.rows) (hW : pssm.rows - 1 ≤ seq.wrap) :
    ∃ sc, Score.scoreFull (Score.dispatchF32 arm zero add pssm seq) seq = .ok sc ∧
      FullScan zero add pssm N s 32 sc :=
  fullScan_any (by decide) zero add pssm N seq s inv hs hN hM hW _
    (fun sc => C01.dispatchF32_eq_generic arm zero add hz pssm hK seq 0 _ sc hM hW (Nat.le_refl _)
      (C01.symOK_of_inv N seq s inv hs hN))

/-- **B1 (ii-a): every cell whose position is `> L − M` holds `bot`** — in the matrix PRODUCED by a
    full scan, when the wildcard column of the scoring matrix is an absorbing `bot` -/
theorem cell_past_end_bot (zero bot : β) (add : β → β → β) (hbot : ∀ x, add x bot = bot)
    (pssm : Mat β K) (N : Nat) (hNcol : ∀ j, j < pssm.rows → pssm.getD j N zero = bot)
    (hM : 1 ≤ pssm.rows) (s : List Nat) (sc : Scores β C) (h : FullScan zero add pssm N s C sc)
    (r c : Nat) (hr : r < sc.data.rows) (hc : c < C)
    (hpast : s.length < c * sc.data.rows + r + pssm.rows) :
    sc.data.getD r c zero = bot := by
  by_cases hLM : s.length < pssm.rows
  · unfold FullScan at h
    rw [if_pos hLM] at h
    exact absurd hr (by rw [h.1]; exact Nat.not_lt_zero r)
  · obtain ⟨h1, _, h3⟩ := h.shape (Nat.le_of_not_lt hLM)
    rw [h1] at hr hpast
    rw [h3 r c hr hc]
    exact windowScore_past_end zero bot add hbot pssm N hNcol hM s _ hpast

/-- **B1 (ii-b): a cell holding the maximum of the scan is the best valid position.**  Total order
    not needed here; `bot` absorbing for `add`, nothing but `bot` is `≤ bot`, wildcard column `bot`.
    If some valid position (`i₀ + M ≤ L`) scores `≠ bot`, then for the matrix a full scan returns,
    any cell `p` holding its maximum (`C07.HoldsMax`: what C07 proves of `argmax` on every backend)
    is a valid position, holds that position's window score, and that score dominates the window
    score of every valid position. -/
theorem holdsMax_is_best_valid (o : Cmp β) (add : β → β → β) (bot : β)
    (hbot : ∀ x, add x bot = bot) (hbotmin : ∀ x, o.le x bot = true → x = bot)
    (pssm : Mat β K) (N : Nat) (hNcol : ∀ j, j < pssm.rows → pssm.getD j N o.zero = bot)
    (hM : 1 ≤ pssm.rows) (hC : 0 < C) (s : List Nat) (sc : Scores β C)
    (h : FullScan o.zero add pssm N s C sc) (p : Coord)
    (hp : C07.HoldsMax o sc.data.rows C (fun r c => sc.data.getD r c o.zero) p)
    (i0 : Nat) (hi0 : i0 + pssm.rows ≤ s.length)
    (hfin : C01.windowScore o.zero add pssm N s i0 ≠ bot) :
    (p.2 * sc.data.rows + p.1) + pssm.rows ≤ s.length ∧
    sc.data.getD p.1 p.2 o.zero = C01.windowScore o.zero add pssm N s (p.2 * sc.data.rows + p.1) ∧
    ∀ i, i + pssm.rows ≤ s.length →
      o.le (C01.windowScore o.zero add pssm N s i)
           (C01.windowScore o.zero add pssm N s (p.2 * sc.data.rows + p.1)) = true := by
  obtain ⟨h1, _, h3⟩ := h.shape (Nat.le_of_add_left_le hi0)
  rw [h1] at hp ⊢
  -- a valid position is a cell of the grid: `i < i + M ≤ L ≤ R · C`
  have hgrid : ∀ i, i + pssm.rows ≤ s.length → i < seqRowsOf C s.length * C := fun i hi =>
    Nat.lt_of_lt_of_le (Nat.lt_of_lt_of_le (Nat.lt_add_of_pos_right hM) hi) (seqRowsOf_mul_ge hC s.length)
  obtain ⟨k1, k2⟩ := C07.holdsMax_valid o bot hbotmin (C01.windowScore o.zero add pssm N s)
    pssm.rows s.length (fun i hi => windowScore_past_end o.zero bot add hbot pssm N hNcol hM s i hi)
    (seqRowsOf C s.length) C _ h3 p hp i0 (hgrid i0 hi0) hfin
  exact ⟨k1, h3 p.1 p.2 hp.1 hp.2.1, fun i hi => k2 i (hgrid i hi)⟩

/-- the same for the maximum VALUE (`C07.IsMax`: what C07 proves of `max` on every backend): it is
    the window score of a valid position and dominates the window score of every valid position —
    "max(score(pssm, seq)) = the best valid position's score" -/
theorem isMax_is_best_valid (o : Cmp β) (add : β → β → β) (bot : β)
    (hbot : ∀ x, add x bot = bot) (hbotmin : ∀ x, o.le x bot = true → x = bot)
    (pssm : Mat β K) (N : Nat) (hNcol : ∀ j, j < pssm.rows → pssm.getD j N o.zero = bot)
    (hM : 1 ≤ pssm.rows) (hC : 0 < C) (s : List Nat) (sc : Scores β C)
    (h : FullScan o.zero add pssm N s C sc) (v : β)
    (hv : C07.IsMax o sc.data.rows C (fun r c => sc.data.getD r c o.zero) v)
    (i0 : Nat) (hi0 : i0 + pssm.rows ≤ s.length)
    (hfin : C01.windowScore o.zero add pssm N s i0 ≠ bot) :
    (∃ i, i + pssm.rows ≤ s.length ∧ C01.windowScore o.zero add pssm N s i = v) ∧
    ∀ i, i + pssm.rows ≤ s.length → o.le (C01.windowScore o.zero add pssm N s i) v = true := by
  obtain ⟨⟨r, c, hr, hc, rfl⟩, hdom⟩ := hv
  obtain ⟨k1, k2, k3⟩ := holdsMax_is_best_valid o add bot hbot hbotmin pssm N hNcol hM hC s sc h
    (r, c) ⟨hr, hc, hdom⟩ i0 hi0 hfin
  refine ⟨⟨_, k1, k2.symm⟩, fun i hi => ?_⟩
  show o.le _ (sc.data.getD r c o.zero) = true
  rw [k2]
  exact k3 i hi

theorem index_offset (zero : β) (sc : Scores β C) (c : Coord) (h1 : c.1 < sc.data.rows)
    (h2 : c.2 < C) :
    Score.index zero sc (c.2 * sc.data.rows + c.1) = .ok (sc.data.getD c.1 c.2 zero) := by
  unfold Score.index
  rw [if_neg (Nat.ne_of_gt (Nat.zero_lt_of_lt h1))]
  simp only [pos_mod _ _ _ h1, pos_div _ _ _ h1]
  rw [if_pos ⟨h1, h2⟩]

/-! ### the final statements, about the `max` / `argmax` functions of C07's model applied to the
    `StripedScores` value returned by C01's scoring model -/

/-- the `StripedScores` of the scoring model, as the `StripedScores` of the maximum model (`Scores`
    and `Maximum.Striped` have the same two fields, one structure per model file) -/
def toMaxStriped (sc : Scores β C) : Maximum.Striped β C := ⟨sc.data, sc.maxIndex⟩

/-- **B1, trait defaults, any column count `C ≥ 1`.**  `max(score(pssm, striped seq))`, both through
    the generic pipeline, is the score of a valid position and dominates the score of every valid
    position, as soon as one valid position scores `≠ −∞`. -/
theorem maxGeneric_of_scan (o : Cmp β) (ht : o.Total) (add : β → β → β) (bot : β)
    (hbot : ∀ x, add x bot = bot) (hbotmin : ∀ x, o.le x bot = true → x = bot)
    (pssm : Mat β K) (N : Nat) (hN : N < K)
    (hNcol : ∀ j, j < pssm.rows → pssm.getD j N o.zero = bot) (hM : 1 ≤ pssm.rows) (hC : 0 < C)
    (seq : Striped C) (s : List Nat) (inv : Inv N seq s) (hs : ∀ x ∈ s, x < K)
    (hW : pssm.rows - 1 ≤ seq.wrap)
    (i0 : Nat) (hi0 : i0 + pssm.rows ≤ s.length)
    (hfin : C01.windowScore o.zero add pssm N s i0 ≠ bot) :
    ∃ sc v, Score.scoreFull (Score.scoreRowsGeneric o.zero add pssm seq) seq = .ok sc ∧
      Maximum.maxGeneric o C sc.data.rows ((toMaxStriped sc).cell o) = some v ∧
      (∃ i, i + pssm.rows ≤ s.length ∧ C01.windowScore o.zero add pssm N s i = v) ∧
      ∀ i, i + pssm.rows ≤ s.length → o.le (C01.windowScore o.zero add pssm N s i) v = true := by
  obtain ⟨sc, hsc, hfull⟩ := fullScan_generic hC o.zero add pssm N seq s inv hs hN hM hW
  have hrows := hfull.rows_ne hC hM (Nat.le_of_add_left_le hi0)
  obtain ⟨v, hmax, hv⟩ := (C07.maxGeneric_answer o ht C sc.data.rows hC _).some_of_ne hrows
  exact ⟨sc, v, hsc, hmax, isMax_is_best_valid o add bot hbot hbotmin pssm N hNcol hM hC s sc hfull
    v hv i0 hi0 hfin⟩

/-- **B1, trait-default `argmax`, any column count `C ≥ 1`**: `argmax(score(pssm, striped seq))`
    designates a cell whose position is valid, that holds the position's window score, and whose
    score dominates the score of every valid position. -/
theorem argmaxGeneric_of_scan (o : Cmp β) (ht : o.Total) (add : β → β → β) (bot : β)
    (hbot : ∀ x, add x bot = bot) (hbotmin : ∀ x, o.le x bot = true → x = bot)
    (pssm : Mat β K) (N : Nat) (hN : N < K)
    (hNcol : ∀ j, j < pssm.rows → pssm.getD j N o.zero = bot) (hM : 1 ≤ pssm.rows) (hC : 0 < C)
    (seq : Striped C) (s : List Nat) (inv : Inv N seq s) (hs : ∀ x ∈ s, x < K)
    (hW : pssm.rows - 1 ≤ seq.wrap)
    (i0 : Nat) (hi0 : i0 + pssm.rows ≤ s.length)
    (hfin : C01.windowScore o.zero add pssm N s i0 ≠ bot) :
    ∃ sc p, Score.scoreFull (Score.scoreRowsGeneric o.zero add pssm seq) seq = .ok sc ∧
      Maximum.argmaxGeneric o C sc.data.rows ((toMaxStriped sc).cell o) = some p ∧
      (toMaxStriped sc).offset p + pssm.rows ≤ s.length ∧
      sc.data.getD p.1 p.2 o.zero = C01.windowScore o.zero add pssm N s ((toMaxStriped sc).offset p) ∧
      ∀ i, i + pssm.rows ≤ s.length →
        o.le (C01.windowScore o.zero add pssm N s i)
          (C01.windowScore o.zero add pssm N s ((toMaxStriped sc).offset p)) = true := by
  obtain ⟨sc, hsc, hfull⟩ := fullScan_generic hC o.zero add pssm N seq s inv hs hN hM hW
  have hrows := hfull.rows_ne hC hM (Nat.le_of_add_left_le hi0)
  obtain ⟨p, harg, hp⟩ := (C07.argmaxGeneric_answer o ht C sc.data.rows hC _).some_of_ne hrows
  exact ⟨sc, p, hsc, harg, holdsMax_is_best_valid o add bot hbot hbotmin pssm N hNcol hM hC s sc
    hfull p hp i0 hi0 hfin⟩

/-- **B1, `StripedScores::max` after `score`, every dispatcher arm of both.**  For every arm `armS`
    the scoring dispatcher takes and every arm `armM` the maximum dispatcher takes:
    `pssm.score(seq).max()` is the score of a valid position and dominates the score of every valid
    position (NaN-free order, `−∞` wildcard column, one valid position scoring `≠ −∞`). -/
theorem stripedMax_of_scan (o : Cmp β) (ht : o.Total) (add : β → β → β)
    (hz : ∀ x, add x o.zero = x) (bot : β)
    (hbot : ∀ x, add x bot = bot) (hbotmin : ∀ x, o.le x bot = true → x = bot)
    (pssm : Mat β K) (hK : K ≤ 256) (N : Nat) (hN : N < K)
    (hNcol : ∀ j, j < pssm.rows → pssm.getD j N o.zero = bot) (hM : 1 ≤ pssm.rows)
    (seq : Striped 32) (s : List Nat) (inv : Inv N seq s) (hs : ∀ x ∈ s, x < K)
    (hW : pssm.rows - 1 ≤ seq.wrap) (armS : Score.Arm) (armM : Maximum.Backend)
    (i0 : Nat) (hi0 : i0 + pssm.rows ≤ s.length)
    (hfin : C01.windowScore o.zero add pssm N s i0 ≠ bot) :
    ∃ sc v, Score.scoreFull (Score.dispatchF32 armS o.zero add pssm seq) seq = .ok sc ∧
      (toMaxStriped sc).maxF32 o armM = some v ∧
      (∃ i, i + pssm.rows ≤ s.length ∧ C01.windowScore o.zero add pssm N s i = v) ∧
      ∀ i, i + pssm.rows ≤ s.length → o.le (C01.windowScore o.zero add pssm N s i) v = true := by
  obtain ⟨sc, hsc, hfull⟩ := fullScan_dispatch armS o.zero add hz pssm hK N seq s inv hs hN hM hW
  have hrows := hfull.rows_ne (by decide) hM (Nat.le_of_add_left_le hi0)
  obtain ⟨v, hmax, hv⟩ :=
    (C07.dispMaxF32_answer o ht armM sc.data.rows ((toMaxStriped sc).cell o)).some_of_ne hrows
  exact ⟨sc, v, hsc, hmax, isMax_is_best_valid o add bot hbot hbotmin pssm N hNcol hM (by decide) s sc
    hfull v hv i0 hi0 hfin⟩

/-- **B1, `StripedScores::argmax` after `score`, every dispatcher arm of both.**  Under the explicit
    size guards of the kernels (`L ≤ u32::MAX`), `pssm.score(seq).argmax()` does not panic and
    returns a position `p` that is valid (`p + M ≤ L`), `scores[p]` is its window score, and that
    score dominates the score of every valid position. -/
theorem stripedArgmax_of_scan (o : Cmp β) (ht : o.Total) (hneg : ∀ v, o.le o.negInf v = true)
    (add : β → β → β) (hz : ∀ x, add x o.zero = x) (bot : β)
    (hbot : ∀ x, add x bot = bot) (hbotmin : ∀ x, o.le x bot = true → x = bot)
    (pssm : Mat β K) (hK : K ≤ 256) (N : Nat) (hN : N < K)
    (hNcol : ∀ j, j < pssm.rows → pssm.getD j N o.zero = bot) (hM : 1 ≤ pssm.rows)
    (seq : Striped 32) (s : List Nat) (inv : Inv N seq s) (hs : ∀ x ∈ s, x < K)
    (hL : s.length ≤ 4294967295)
    (hW : pssm.rows - 1 ≤ seq.wrap) (armS : Score.Arm) (armM : Maximum.Backend)
    (i0 : Nat) (hi0 : i0 + pssm.rows ≤ s.length)
    (hfin : C01.windowScore o.zero add pssm N s i0 ≠ bot) :
    ∃ sc p, Score.scoreFull (Score.dispatchF32 armS o.zero add pssm seq) seq = .ok sc ∧
      (toMaxStriped sc).argmaxF32 o armM = .ok (some p) ∧
      p + pssm.rows ≤ s.length ∧
      Score.index o.zero sc p = .ok (C01.windowScore o.zero add pssm N s p) ∧
      ∀ i, i + pssm.rows ≤ s.length →
        o.le (C01.windowScore o.zero add pssm N s i) (C01.windowScore o.zero add pssm N s p) = true := by
  obtain ⟨sc, hsc, hfull⟩ := fullScan_dispatch armS o.zero add hz pssm hK N seq s inv hs hN hM hW
  have hLM : pssm.rows ≤ s.length := Nat.le_of_add_left_le hi0
  obtain ⟨h1, h2, -⟩ := hfull.shape hLM
  -- `⌈L / 32⌉ ≤ ⌈(2³² − 1) / 32⌉`
  have hle : (toMaxStriped sc).data.rows ≤ 4294967296 :=
    h1.le.trans ((Nat.div_le_div_right (Nat.add_le_add_right hL 31)).trans (by decide))
  -- not a panic (`max_index = L + 1 − M ≤ L`), not `None`
  have hidx : sc.maxIndex ≤ 4294967295 := h2.le.trans ((Nat.sub_le_sub_left hM _).trans hL)
  obtain ⟨a, harg, ha⟩ := (C07.striped_argmaxF32_answer o ht hneg armM (toMaxStriped sc) hle).ok_of_not
    fun g => Nat.not_lt_of_le hidx g.2
  obtain ⟨_, rfl, c, hc, rfl⟩ := ha.some_of_ne (hfull.rows_ne (by decide) hM hLM)
  obtain ⟨k1, k2, k3⟩ := holdsMax_is_best_valid o add bot hbot hbotmin pssm N hNcol hM
    (by decide) s sc hfull c hc i0 hi0 hfin
  exact ⟨sc, _, hsc, harg, k1, (index_offset o.zero sc c hc.1 hc.2.1).trans (congrArg _ k2), k3⟩

end B1

/-! ### examples for §B1: the exact carrier `ERat` (rationals with `−∞`) of C02/C03/C08, the
    2-row matrix `C08.pex` (score 1 for `C`, wildcard column `−∞`), 40 symbols in 32 columns -/

/-- `ERat` as an element type of the maximum model: `T::default() = 0`, `−∞ = bot` -/
def eratCmp : Cmp ERat := ⟨ERat.le, ERat.lt, .fin 0, .bot⟩

theorem eratCmp_total : eratCmp.Total := ⟨ERat.le_total, ERat.le_trans, ERat.lt_eq_not_le⟩

theorem erat_add_bot (x : ERat) : ERat.add x .bot = .bot := C08.add_bot_right x

theorem erat_le_bot (x : ERat) (h : eratCmp.le x .bot = true) : x = .bot := by
  cases x with
  | bot => rfl
  | fin q => simp [eratCmp, ERat.le] at h

theorem erat_add_zero (x : ERat) : ERat.add x (.fin 0) = x := by
  cases x with
  | bot => rfl
  | fin q => simp [ERat.add]

/-- 40 symbols over `{A, C, T, G, N = 4}`, wildcards inside, the last symbol a `C` -/
def bS : List Nat := (List.range 40).map fun i => if i = 39 then 1 else (i * i + i / 3) % 5
/-- striped in 32 columns (2 sequence rows) and configured for a motif of 2 rows (1 wrap row) -/
def bSeq : Striped 32 := Striped.configure 4 2 (Striped.stripeGeneric (C := 32) 4 bS Striped.empty)

theorem bSeq_inv : Inv 4 bSeq bS :=
  C04.configure_inv (by decide) 4 _ _ 2 (C04.stripeGeneric_inv (by decide) 4 _ _)

-- B1 (i) on numbers: both definitions give `[1, −∞, −∞, 0]` on the first four windows
example : (List.range 4).map (fun i => C07.windowScore ERat.add (.fin 0) (fun j a => C08.pex.getD j a (.fin 0))
      C08.pex.rows (C07.padSym (fun q => bS.getD q 4) bS.length 4) i) = [.fin 1, .bot, .bot, .fin 0] ∧
    (List.range 4).map (fun i => C01.windowScore (.fin 0) ERat.add C08.pex 4 bS i) = [.fin 1, .bot, .bot, .fin 0] := by
  decide +kernel

-- the hypotheses of the final theorems hold for this instance …
example : (∀ x, ERat.add x .bot = .bot) ∧ (∀ x, eratCmp.le x .bot = true → x = .bot) ∧
    (∀ x, ERat.add x eratCmp.zero = x) ∧ (∀ v, eratCmp.le eratCmp.negInf v = true) ∧ eratCmp.Total :=
  ⟨erat_add_bot, erat_le_bot, erat_add_zero, fun _ => rfl, eratCmp_total⟩
example : (∀ j, j < C08.pex.rows → C08.pex.getD j 4 eratCmp.zero = .bot) ∧ 1 ≤ C08.pex.rows ∧
    (∀ x ∈ bS, x < 5) ∧ C08.pex.rows - 1 ≤ bSeq.wrap ∧ 0 + C08.pex.rows ≤ bS.length ∧
    C01.windowScore eratCmp.zero ERat.add C08.pex 4 bS 0 ≠ .bot := by decide +kernel

/-- … so `max(score(pssm, seq))` is the best valid score, through every pair of dispatcher arms -/
example (armS : Score.Arm) (armM : Maximum.Backend) :
    ∃ sc v, Score.scoreFull (Score.dispatchF32 armS eratCmp.zero ERat.add C08.pex bSeq) bSeq = .ok sc ∧
      (toMaxStriped sc).maxF32 eratCmp armM = some v ∧
      (∃ i, i + C08.pex.rows ≤ bS.length ∧ C01.windowScore eratCmp.zero ERat.add C08.pex 4 bS i = v) ∧
      ∀ i, i + C08.pex.rows ≤ bS.length →
        eratCmp.le (C01.windowScore eratCmp.zero ERat.add C08.pex 4 bS i) v = true :=
  stripedMax_of_scan eratCmp eratCmp_total ERat.add erat_add_zero .bot erat_add_bot erat_le_bot
    C08.pex (by decide) 4 (by decide) (by decide +kernel) (by decide +kernel) bSeq bS bSeq_inv
    (by decide +kernel) (by decide +kernel) armS armM 0 (by decide +kernel) (by decide +kernel)

example (armS : Score.Arm) (armM : Maximum.Backend) :
    ∃ sc p, Score.scoreFull (Score.dispatchF32 armS eratCmp.zero ERat.add C08.pex bSeq) bSeq = .ok sc ∧
      (toMaxStriped sc).argmaxF32 eratCmp armM = .ok (some p) ∧ p + C08.pex.rows ≤ bS.length ∧
      Score.index eratCmp.zero sc p = .ok (C01.windowScore eratCmp.zero ERat.add C08.pex 4 bS p) ∧
      ∀ i, i + C08.pex.rows ≤ bS.length →
        eratCmp.le (C01.windowScore eratCmp.zero ERat.add C08.pex 4 bS i)
          (C01.windowScore eratCmp.zero ERat.add C08.pex 4 bS p) = true :=
  stripedArgmax_of_scan eratCmp eratCmp_total (fun _ => rfl) ERat.add erat_add_zero .bot erat_add_bot
    erat_le_bot C08.pex (by decide) 4 (by decide) (by decide +kernel) (by decide +kernel) bSeq bS
    bSeq_inv (by decide +kernel) (by decide +kernel) (by decide +kernel) armS armM 0
    (by decide +kernel) (by decide +kernel)

-- the trait defaults on 4 columns: `C01.exS = A T G C A N T` (7 symbols, one wildcard), `C01.exSeq4`
example : ∃ sc v, Score.scoreFull (Score.scoreRowsGeneric eratCmp.zero ERat.add C08.pex C01.exSeq4) C01.exSeq4 = .ok sc ∧
    Maximum.maxGeneric eratCmp 4 sc.data.rows ((toMaxStriped sc).cell eratCmp) = some v ∧
    (∃ i, i + C08.pex.rows ≤ C01.exS.length ∧ C01.windowScore eratCmp.zero ERat.add C08.pex 4 C01.exS i = v) ∧
    ∀ i, i + C08.pex.rows ≤ C01.exS.length →
      eratCmp.le (C01.windowScore eratCmp.zero ERat.add C08.pex 4 C01.exS i) v = true :=
  maxGeneric_of_scan eratCmp eratCmp_total ERat.add .bot erat_add_bot erat_le_bot C08.pex 4 (by decide)
    (by decide +kernel) (by decide +kernel) (by decide) C01.exSeq4 C01.exS
    (C04.configure_inv (by decide) 4 _ _ 2 (C04.stripeGeneric_inv (by decide) 4 _ _))
    (by decide) (by decide +kernel) 0 (by decide +kernel) (by decide +kernel)
example : (match Score.scoreFull (Score.scoreRowsGeneric (.fin 0) ERat.add C08.pex C01.exSeq4) C01.exSeq4 with
    | .ok sc => (Maximum.maxGeneric eratCmp 4 sc.data.rows ((toMaxStriped sc).cell eratCmp),
        (Maximum.argmaxGeneric eratCmp 4 sc.data.rows ((toMaxStriped sc).cell eratCmp)).map (toMaxStriped sc).offset,
        Score.unstripe (.fin 0) sc, sc.data.getD 0 3 (.fin 0))
    | .error _ => (none, none, [], .fin 7)) =
    (some (.fin 1), some 3, [.fin 0, .fin 0, .fin 1, .fin 1, .bot, .bot], .bot) := by decide +kernel

/-- what the models compute on it: maximum 2 (`C C`, at positions 7, 22 and 37, 38), an admissible (backend-dependent)
    arg-maximum, and `−∞` in the cell of position 39 = (row 1, column 19), whose window is `C` + padding -/
def bRun (armS : Score.Arm) (armM : Maximum.Backend) : Option (Option ERat × Option Nat × ERat × ERat) :=
  match Score.scoreFull (Score.dispatchF32 armS (.fin 0) ERat.add C08.pex bSeq) bSeq with
  | .ok sc =>
    some ((toMaxStriped sc).maxF32 eratCmp armM,
      (match (toMaxStriped sc).argmaxF32 eratCmp armM with | .ok a => a | .error _ => none),
      sc.data.getD 1 19 (.fin 0), sc.data.getD 0 19 (.fin 0))
  | .error _ => none

example : bRun .avx2 .avx2 = some (some (.fin 2), some 7, .bot, .fin 2) := by decide +kernel
example : bRun .sse2 .generic = some (some (.fin 2), some 37, .bot, .fin 2) := by decide +kernel
example : bRun .generic .sse2 = some (some (.fin 2), some 38, .bot, .fin 2) := by decide +kernel

end Bridge
end LMV
