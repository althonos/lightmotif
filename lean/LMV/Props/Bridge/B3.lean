/-  Bridge §B3 — see LMV/Props/Bridge.lean for the overview.  (B1 is imported for the example data
    `bS`, `bSeq`; Mathlib's list sums come with it.)  -/
import LMV.Props.Bridge.B1

namespace LMV
namespace Bridge

open C04 (Inv)

section B3
variable {C : Nat}

/-- Under the striping invariant of C04 (any backend, any `configure` history),
    `StripedSequence::count_symbols` returns the `K` occurrence counts of the linear sequence: entry
    `a` is `s.count a`.  (`_hs`, every symbol `< K`, is not needed here — a symbol `≥ K` is simply not
    counted — only by `countSymbols_sum`.) -/
theorem countSymbols_eq (hC : 0 < C) (N : Nat) (st : Striped C) (s : List Nat) (h : Inv N st s)
    (K : Nat) (_hs : ∀ x ∈ s, x < K) :
    st.countSymbols K = (List.range K).map (fun a => s.count a) := by
  rw [Striped.countSymbols_eq_map_countSymbol]
  apply List.map_congr_left
  intro a _
  exact C04.countSymbol_eq hC N st s h a

theorem sum_counts (K : Nat) (s : List Nat) (hs : ∀ x ∈ s, x < K) :
    ((List.range K).map (fun a => s.count a)).sum = s.length := by
  induction s with
  | nil => simp
  | cons x xs ih =>
    have h1 : ((List.range K).map (fun a => (x :: xs).count a)) =
        (List.range K).map (fun a => xs.count a + (if x = a then 1 else 0)) := by
      apply List.map_congr_left
      intro a _
      rw [List.count_cons]
      simp only [beq_iff_eq]
    rw [h1, List.sum_map_add, ih (fun y hy => hs y (List.mem_cons_of_mem _ hy)), sum_indicator,
      if_pos (hs x List.mem_cons_self), List.length_cons]

/-- hence (this is where `symbols < K` is used) the counts add up to the sequence length: no symbol
    is dropped or counted twice -/
theorem countSymbols_sum (hC : 0 < C) (N : Nat) (st : Striped C) (s : List Nat) (h : Inv N st s)
    (K : Nat) (hs : ∀ x ∈ s, x < K) : (st.countSymbols K).sum = s.length := by
  rw [countSymbols_eq hC N st s h K hs, sum_counts K s hs]

-- the 40-symbol sequence of §B1 after `configure` (wrap row present), `K = 5`
example : bSeq.countSymbols 5 = (List.range 5).map (fun a => bS.count a) :=
  countSymbols_eq (by decide) 4 bSeq bS bSeq_inv 5 (by decide +kernel)
example : bSeq.countSymbols 5 = [8, 13, 3, 9, 7] ∧ (bSeq.countSymbols 5).sum = 40 := by decide +kernel

end B3

end Bridge
end LMV
