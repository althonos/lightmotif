/-  Bridge §B2 — see LMV/Props/Bridge.lean for the overview  -/
import LMV.Props.Bridge.B1
import LMV.Props.C03

namespace LMV
namespace Bridge

open C04 (Inv seqRowsOf)

/-! ## §B2  the scanner theorems are about the kernels of C01 and C07 -/

section B2
variable {K C : Nat}

/-- **C02/C03's exact score IS C01's window score**: `C02.scoreAt` (the `score_position` order sum
    over `ERat`, wildcard `K − 1`) is `C01.windowScore` over the carrier `ERat` — so the hits of
    `C02.scanner_yields_exactly` / `C03.scanner_best_hit` carry the score every backend of C01
    computes. -/
theorem scoreAt_eq_windowScore (p : Mat ERat K) (s : List Nat) (i : Nat) :
    C02.scoreAt p s i = C01.windowScore (ERat.fin 0) ERat.add p (K - 1) s i := rfl

/-! ### block scoring: the cell model of C02 / C08 and the lane-level model of C01 -/

/-- `u8::saturating_add` = one lane of `_mm256_adds_epu8`: the accumulation of C02's cell model … -/
def satU8 (a b : UInt8) : UInt8 := if 255 < a.toNat + b.toNat then 255 else a + b

theorem addU8_saturating_eq (a b : UInt8) : Disc.addU8 .saturating a b = .ok (satU8 a b) := rfl

/-- … which on the byte values is C01's `u8Sat` (`Mat UInt8` here, `Mat Nat` there) -/
theorem satU8_toNat (a b : UInt8) : (satU8 a b).toNat = Score.u8Sat a.toNat b.toNat := by
  obtain ⟨v, hv, hn⟩ := C08.addU8_saturating a b
  cases hv
  exact hn.trans (Nat.min_comm _ _)

/-! The dispatcher arm is enumerated once per model file (`Disc.Arm` for the scanner, `Score.Arm`
    for C01's scoring, `Maximum.Backend` for C07, `Gen.MaxK.Kernel` in the regenerated tables); the
    scanner's is translated into the other two here. -/

/-- the dispatcher arm, in the vocabulary of the two models -/
def armOf : Disc.Arm → Score.Arm
  | .generic => .generic
  | .sse2 => .sse2
  | .avx2 => .avx2

/-- the dispatcher arm, in the vocabulary of the scanner model and of the maximum model -/
def backendOf : Disc.Arm → Maximum.Backend
  | .generic => .generic
  | .sse2 => .sse2
  | .avx2 => .avx2

/-- `StripedScores<u8, C>` of the lane-level model as the `StripedScores<u8, C>` of the scanner model -/
def toDisc (sc : Scores UInt8 C) : Disc.Scores C := ⟨sc.data, sc.maxIndex⟩

theorem dscoreFn_sat_eq (dm : Mat UInt8 K) (sym : Nat → Nat) :
    Disc.dscoreFn .saturating dm sym = .ok (Score.cellSum 0 satU8 dm sym) := by
  unfold Disc.dscoreFn Score.cellSum
  exact Disc.foldE_ok _ (fun s j => satU8 s (dm.getD j (sym j) 0)) _ _ (fun _ _ _ => rfl)

theorem blockMat_eq_scanRows (cell : Nat → Nat → Except String UInt8) (dm : Mat UInt8 K)
    (seq : Mat Nat C) (lo n : Nat) (d0 : Mat UInt8 C) (hd0 : d0.rows = n)
    (hcell : ∀ r c, r < n → c < C →
      cell (lo + r) c = .ok (Score.cellSum 0 satU8 dm fun j => seq.getD (lo + r + j) c 0)) :
    Disc.blockMat (C := C) cell lo n = Score.scanRows 0 satU8 dm seq lo n d0 := by
  have hp := Score.scanRows_patch 0 satU8 dm seq lo n d0
  apply Mat.ext
  · rw [C08.blockMat_rows, hp.rows, hd0]
  · intro r c hr hc
    rw [C08.blockMat_rows] at hr
    rw [C08.blockMat_get _ lo n r c _ hr hc (hcell r c hr hc)]
    exact (hp.hit r c (Nat.lt_of_lt_of_eq hr hd0.symm) hc hr 0).symm

theorem toDisc_resize_zero (sc0 : Scores UInt8 C) :
    (Disc.Scores.empty : Disc.Scores C) = toDisc (Score.resize 0 sc0 0 0) := by
  unfold Disc.Scores.empty toDisc Score.resize
  refine congrArg (Disc.Scores.mk · 0) (Mat.ext ?_ fun r c hr => ?_)
  · simp
  · simp at hr

/-- **B2, the cells.**  For every dispatcher arm, the block scoring function used inside
    `Scanner.kernels` (C02/C03: one saturating fold per cell) returns exactly what C01's LANE-LEVEL
    `u8` pipeline returns for the same discrete matrix, striped sequence and row range, whatever the
    reused score buffer `sc0` held: same panic/no-panic, same `max_index`, same matrix cell for cell.
    AVX2 arm: `Avx2.scoreU8` = `score_u8_avx2_shuffle` with its broadcast / byte-shuffle lanes and
    store offsets regenerated from avx2.rs.  Hypotheses = those of C01: `K ≤ 16`, symbols `< K`,
    `M ≥ 1`, `W ≥ M − 1`, range inside the sequence rows.  Both models hold `u8` cells
    (`Mat UInt8`); the lane addition is `satU8`, C01's `u8Sat` on byte values (`satU8_toNat`). -/
theorem blockScoring_eq_lane (arm : Disc.Arm) (dm : Mat UInt8 K) (hK : K ≤ 16) (seq : Striped 32)
    (lo hi : Nat) (sc0 : Scores UInt8 32) (hM : 1 ≤ dm.rows) (hW : dm.rows - 1 ≤ seq.wrap)
    (hb : hi ≤ seq.data.rows - seq.wrap) (hsym : C01.SymOK K seq) :
    Disc.scoreRowsDispatch arm .saturating dm seq lo hi =
      (Score.dispatchU8 (armOf arm) 0 satU8 satU8 dm seq lo hi sc0).map toDisc := by
  rw [C01.dispatchU8_all_arms (armOf arm) 0 satU8 dm hK seq lo hi sc0 hM hW hb hsym]
  by_cases hexit : seq.length < dm.rows ∨ hi ≤ lo
  · -- `resize(0, 0)` on both sides
    rw [Score.scoreRowsGeneric_exit 0 satU8 dm seq lo hi sc0 hexit]
    show _ = Except.ok (toDisc (Score.resize 0 sc0 0 0))
    rw [← toDisc_resize_zero]
    exact C08.scoreRowsDispatch_empty arm _ dm seq lo hi hM hW hexit
  · -- every arm of the cell model returns the block of the saturating column-window scores
    obtain ⟨hlen, hlt⟩ := not_or.1 hexit
    -- the range is not empty, so `wrap < rows` and `hb` reads `hi + wrap ≤ rows`
    have hwr : seq.wrap < seq.data.rows :=
      Nat.lt_of_sub_pos (Nat.zero_lt_of_lt (Nat.lt_of_lt_of_le (Nat.lt_of_not_le hlt) hb))
    have hfit : hi + (dm.rows - 1) ≤ seq.data.rows :=
      (Nat.add_le_add_left hW hi).trans (Nat.add_le_of_le_sub hwr.le hb)
    have hfit' : hi + dm.rows ≤ seq.data.rows + 1 := by
      rw [← Nat.sub_add_cancel hM]; exact Nat.succ_le_succ hfit
    rw [C01.scoreRowsGeneric_ok 0 satU8 dm seq lo hi sc0 hsym hexit hfit,
      C08.scoreRowsDispatch_sat arm dm seq lo hi hM hW (Nat.le_of_not_lt hlen) (Nat.lt_of_not_le hlt)
        hfit']
    show _ = Except.ok (toDisc _)
    simp only [toDisc]
    rw [blockMat_eq_scanRows _ dm seq.data lo (hi - lo) (sc0.data.resize (hi - lo) 0)
      (Mat.rows_resize ..) fun r c _ _ => dscoreFn_sat_eq dm _]

/-- the same on ANY row range when the sequence is shorter than the motif: both models return the
    empty score matrix before looking at the range -/
theorem blockScoring_eq_lane_short (arm : Disc.Arm) (dm : Mat UInt8 K) (seq : Striped 32)
    (lo hi : Nat) (sc0 : Scores UInt8 32) (hM : 1 ≤ dm.rows) (hW : dm.rows - 1 ≤ seq.wrap)
    (hshort : seq.length < dm.rows) :
    Disc.scoreRowsDispatch arm .saturating dm seq lo hi =
      (Score.dispatchU8 (armOf arm) 0 satU8 satU8 dm seq lo hi sc0).map toDisc := by
  have hR : Score.dispatchU8 (armOf arm) 0 satU8 satU8 dm seq lo hi sc0 =
      .ok (Score.resize 0 sc0 0 0) := by
    cases arm with
    | avx2 =>
      show Score.simdWrapper 0 dm seq lo hi sc0 _ = _
      rw [Score.simdWrapper, if_neg (Nat.ne_of_gt hM), if_neg (Nat.not_lt_of_le hW),
        if_pos (Or.inl hshort)]
    | generic | sse2 => exact Score.scoreRowsGeneric_exit 0 satU8 dm seq lo hi sc0 (Or.inl hshort)
  rw [hR]
  show _ = Except.ok (toDisc (Score.resize 0 sc0 0 0))
  rw [← toDisc_resize_zero]
  exact C08.scoreRowsDispatch_empty arm _ dm seq lo hi hM hW (Or.inl hshort)

/-! ### the block maximum and the candidate list of the scanner ARE those of C07

  `Scanner.maxDispatch` / `Scanner.threshold` (Model/Scanner, hand-written from scan.rs's callees) and
  `Maximum.dispMaxU8` / `Maximum.thresholdGeneric` (Model/Maximum, driven by the tables of
  `LMV.Gen.MaxK` regenerated from pli/mod.rs, avx2.rs and dispatch.rs on every run) model the same
  Rust code.  Here they are proved equal on every block (the trait defaults already in C02:
  `C02.maxGeneric_eq`, `C02.threshold_eq`), and the scanner theorems are restated for a kernel
  record whose `max` / `threshold` fields are C07's functions — so that C02 / C03 depend on the
  regenerated dispatcher / kernel tables (`dispU8Max`, `mu8Init`, `genericArgmaxRel`,
  `genericThresholdRel`). -/

section LinkC07

/-- a 2-row block: 200 at (1, 9) and again at (0, 20), 7 at (0, 3), 0 elsewhere -/
def lBlk : Disc.Scores 32 :=
  ⟨Mat.ofFn 2 fun r c => if (r = 1 ∧ c = 9) ∨ (r = 0 ∧ c = 20) then 200 else if r = 0 ∧ c = 3 then 7 else 0, 64⟩

/-- a 2-row block of zeros (the accumulators of `max_u8_avx2` never move) -/
def lZero : Disc.Scores 32 := ⟨Mat.ofFn 2 fun _ _ => 0, 64⟩

/-! #### the block maximum -/

/-- **The scanner's block maximum IS the table-driven dispatcher maximum of C07**, for every arm
    and every block — any number of rows, 0 and more than 65 536 included (`max_u8_avx2` and the
    trait default through `argmax` of the generic pipeline have no row limit; only `argmax_u8_avx2`,
    which no `max` arm of the dispatcher calls — `dispU8Max` — has one).  Both are `None` exactly on
    an empty block and otherwise attained upper bounds (`C02.maxDispatch_answer`,
    `C07.dispMaxU8_answer` from the regenerated tables), and `≤` on `u8` is antisymmetric. -/
theorem scannerMax_eq_c07 (arm : Disc.Arm) (sc : Disc.Scores 32) :
    Scanner.maxDispatch arm sc =
      Maximum.dispMaxU8 C07.u8Cmp (backendOf arm) sc.data.rows (fun r c => sc.data.get r c) :=
  ((C02.maxDispatch_answer (by decide) arm sc).agree
    (C07.dispMaxU8_answer _ C07.u8Cmp_isU8 _ _ _)).eq C07.u8Cmp_isU8.anti

-- both sides compute, on every arm: the planted 200, `some 0` on zeros, `none` on the empty block
example : ∀ arm ∈ [Disc.Arm.generic, .sse2, .avx2],
    Scanner.maxDispatch arm lBlk = some 200 ∧
    Maximum.dispMaxU8 C07.u8Cmp (backendOf arm) lBlk.data.rows (fun r c => lBlk.data.get r c) = some 200 ∧
    Scanner.maxDispatch arm lZero = some 0 ∧
    Maximum.dispMaxU8 C07.u8Cmp (backendOf arm) lZero.data.rows (fun r c => lZero.data.get r c) = some 0 ∧
    Scanner.maxDispatch arm (Disc.Scores.empty : Disc.Scores 32) = none ∧
    Maximum.dispMaxU8 C07.u8Cmp (backendOf arm) (Disc.Scores.empty : Disc.Scores 32).data.rows
      (fun r c => (Disc.Scores.empty : Disc.Scores 32).data.get r c) = none := by
  decide +kernel

/-! #### the candidate list -/

/-- **The scanner's candidate list IS the trait-default `threshold` of C07** (comparison read from
    pli/mod.rs: `genericThresholdRel`): the same list, in the same row-major order -/
theorem scannerThreshold_eq_c07 (sc : Disc.Scores 32) (t : UInt8) :
    Scanner.threshold sc t =
      Maximum.thresholdGeneric C07.u8Cmp 32 sc.data.rows (fun r c => sc.data.get r c) t :=
  C02.threshold_eq sc t

/-- every dispatcher arm uses the trait default for `threshold` (`Maximum.Striped.threshold` ignores
    its arm): `StripedScores::threshold` of C07 is the scanner's candidate list, as offsets -/
theorem scannerThreshold_all_arms (arm : Disc.Arm) (sc : Disc.Scores 32) (t : UInt8) :
    Maximum.Striped.threshold C07.u8Cmp (backendOf arm) ⟨sc.data, sc.maxIndex⟩ t =
      (Scanner.threshold sc t).map fun mc => mc.2 * sc.data.rows + mc.1 := by
  rw [scannerThreshold_eq_c07]; rfl

example : Scanner.threshold lBlk 7 = [(0, 3), (0, 20), (1, 9)] ∧
    Maximum.thresholdGeneric C07.u8Cmp 32 lBlk.data.rows (fun r c => lBlk.data.get r c) 7 =
      [(0, 3), (0, 20), (1, 9)] ∧
    Maximum.Striped.threshold C07.u8Cmp .sse2 ⟨lBlk.data, lBlk.maxIndex⟩ 7 = [6, 40, 19] := by
  decide +kernel

/-! #### C07's specifications, read on the scanner's own functions

  (`scannerThreshold_mem` / `_nodup` are `C02.threshold_mem` / `_nodup` at 32 columns) -/

/-- `None` exactly on an empty block, from `C07.dispMaxU8_answer` -/
theorem scannerMax_none_iff (arm : Disc.Arm) (sc : Disc.Scores 32) :
    Scanner.maxDispatch arm sc = none ↔ sc.data.rows = 0 := by
  rw [scannerMax_eq_c07]; exact (C07.dispMaxU8_answer _ C07.u8Cmp_isU8 _ _ _).none_iff

theorem scannerMax_isMax (arm : Disc.Arm) (sc : Disc.Scores 32) (m : UInt8)
    (hm : Scanner.maxDispatch arm sc = some m) :
    C07.IsMax C07.u8Cmp sc.data.rows 32 (fun r c => sc.data.get r c) m := by
  rw [scannerMax_eq_c07] at hm
  exact (C07.dispMaxU8_answer _ C07.u8Cmp_isU8 _ _ _).of_some hm

theorem scannerMax_ge (arm : Disc.Arm) (sc : Disc.Scores 32) (m : UInt8)
    (hm : Scanner.maxDispatch arm sc = some m) (r c : Nat) (hr : r < sc.data.rows) (hc : c < 32) :
    sc.data.get r c ≤ m := by
  have h := (scannerMax_isMax arm sc m hm).2 r c hr hc
  rwa [C07.u8Cmp_isU8.1, decide_eq_true_eq] at h

theorem scannerThreshold_mem (sc : Disc.Scores 32) (t : UInt8) (r c : Nat) :
    (r, c) ∈ Scanner.threshold sc t ↔ r < sc.data.rows ∧ c < 32 ∧ t ≤ sc.data.get r c :=
  C02.threshold_mem sc t r c

theorem scannerThreshold_nodup (sc : Disc.Scores 32) (t : UInt8) : (Scanner.threshold sc t).Nodup :=
  C02.threshold_nodup sc t

example : C07.IsMax C07.u8Cmp lBlk.data.rows 32 (fun r c => lBlk.data.get r c) 200 :=
  scannerMax_isMax .avx2 lBlk 200 (by decide +kernel)
example : (1, 9) ∈ Scanner.threshold lBlk 8 ∧ (0, 3) ∉ Scanner.threshold lBlk 8 := by
  rw [scannerThreshold_mem, scannerThreshold_mem]; decide +kernel

end LinkC07

/-! ### transfer of C02 / C03

#### to the lane-level block scoring of C01 -/

section transfer
open Scanner Disc
variable {α : Type} [ScanScalar α]

/-- the kernels of a `Scanner` whose block scoring is C01's lane-level `u8` pipeline (through the
    dispatcher arm `arm`); `buf lo hi` is whatever the reused `dscores` buffer holds when rows
    `lo..hi` are scored.  Everything else as in `Scanner.kernels`. -/
def kernelsLane [Inhabited α] (pssm : Mat α K) (dm : Discrete α K) (seq : Striped 32) (arm : Disc.Arm)
    (buf : Nat → Nat → LMV.Scores UInt8 32) : Kernels α 32 where
  seqRows := seq.data.rows - seq.wrap
  scoreRows lo hi :=
    (Score.dispatchU8 (armOf arm) 0 satU8 satU8 dm.data seq lo hi (buf lo hi)).map toDisc
  max := maxDispatch arm
  threshold := threshold
  scorePosition := scorePosition pssm seq
  scale := dm.scale

/-- `blockScoring_eq_lane` read on the two kernel records: the `score_rows_into` of the real
    `Scanner.kernels` (any arm, either build profile) is the one of the lane-level record -/
theorem kernels_scoreRows_eq_lane [Inhabited α] (arm : Disc.Arm) (overflowChecks : Bool)
    (pssm : Mat α K) (dm : Discrete α K) (hK : K ≤ 16) (seq : Striped 32)
    (buf : Nat → Nat → LMV.Scores UInt8 32) (lo hi : Nat) (hM : 1 ≤ dm.data.rows)
    (hW : dm.data.rows - 1 ≤ seq.wrap) (hb : hi ≤ seq.data.rows - seq.wrap)
    (hsym : C01.SymOK K seq) :
    (kernels pssm dm seq arm (accOf overflowChecks)).scoreRows lo hi =
      (kernelsLane pssm dm seq arm buf).scoreRows lo hi :=
  blockScoring_eq_lane arm dm.data hK seq lo hi (buf lo hi) hM hW hb hsym

/-- `KernelSpec` only looks at block scoring on non-empty ranges inside the sequence rows (or on any
    range when there is no position): another block scoring that agrees with the record's there
    can take its place -/
theorem kernelSpec_scoreRows {k : Kernels α C} {R nPos : Nat} {score : Nat → α}
    (spec : C02.KernelSpec k R nPos score) (f : Nat → Nat → Except String (Disc.Scores C))
    (hrows : ∀ lo hi, (nPos = 0 ∨ (lo < hi ∧ hi ≤ R)) → f lo hi = k.scoreRows lo hi) :
    C02.KernelSpec { k with scoreRows := f } R nPos score :=
  { spec with
    scoreRows := fun hpos lo hi hlo hhi => by
      show ∃ ds, f lo hi = .ok ds ∧ _
      rw [hrows lo hi (Or.inr ⟨hlo, hhi⟩)]
      exact spec.scoreRows hpos lo hi hlo hhi
    scoreRowsShort := fun hz lo hi => by
      show ∃ ds, f lo hi = .ok ds ∧ _
      rw [hrows lo hi (Or.inl hz)]
      exact spec.scoreRowsShort hz lo hi }

/-- **B2: `KernelSpec` for the lane-level kernels.**  Under the hypotheses of `C02.kernels_spec` and
    `K ≤ 16` (the trait bound of the shuffle kernel), the scanner kernels built on C01's lane-level
    `u8` pipeline satisfy the specification the scanner proofs of C02 and C03 are written against. -/
theorem kernelsLane_spec (arm : Disc.Arm) (buf : Nat → Nat → LMV.Scores UInt8 32)
    {p : Mat ERat K} {x : ℕ → ℕ → ℚ} (hfin : C08.FiniteEntries p x) (hK : 2 ≤ K) (hK16 : K ≤ 16)
    {dm : Discrete ERat K} (hdm : toDiscrete p = .ok dm) (hf : 0 < C08.facQ K x p.rows)
    (st : Striped 32) (s : List Nat) (hinv : Inv (K - 1) st s) (hs : ∀ a ∈ s, a < K)
    (hM : 1 ≤ p.rows) (hwrap : p.rows - 1 ≤ st.wrap) :
    C02.KernelSpec (kernelsLane p dm st arm buf) (seqRowsOf 32 s.length)
      (s.length + 1 - p.rows) (C02.scoreAt p s) := by
  obtain ⟨-, -, hrows, -⟩ := C08.toDiscrete_facts hfin hK hdm
  -- `kernelsLane` has no build profile (it adds with `satU8`); `false` stands for either one, the
  -- block scoring of `Scanner.kernels` being the saturating one for both (`accOf _ = .saturating`)
  have spec := C02.kernels_spec arm false hfin hK hdm hf (by decide) st s hinv hs hM hwrap
  have hsym : C01.SymOK K st := C01.symOK_of_inv (K - 1) st s hinv hs
    (Nat.sub_lt (Nat.zero_lt_of_lt hK) Nat.one_pos)
  refine kernelSpec_scoreRows spec _ fun lo hi hcase => ?_
  rcases hcase with hz | ⟨_, hhi⟩
  · exact (blockScoring_eq_lane_short arm dm.data st lo hi _ (hrows ▸ hM) (hrows ▸ hwrap)
      (by rw [hrows, hinv.len]; exact Nat.le_of_sub_eq_zero hz)).symm
  · exact (blockScoring_eq_lane arm dm.data hK16 st lo hi _ (hrows ▸ hM) (hrows ▸ hwrap)
      (by rw [hinv.rows, Nat.add_sub_cancel]; exact hhi) hsym).symm

/-- **C02 for the lane-level kernels**: `C02.scanner_yields_exactly`, word for word, with the block
    scoring done by C01's lane-level `u8` pipeline -/
theorem scanner_yields_exactly_lane (arm : Disc.Arm) (buf : Nat → Nat → LMV.Scores UInt8 32)
    {p : Mat ERat K} {x : ℕ → ℕ → ℚ} (hfin : C08.FiniteEntries p x) (hK : 2 ≤ K) (hK16 : K ≤ 16)
    (hf : 0 < C08.facQ K x p.rows)
    (st : Striped 32) (s : List Nat) (hinv : Inv (K - 1) st s) (hs : ∀ a ∈ s, a < K)
    (hM : 1 ≤ p.rows) (hwrap : p.rows - 1 ≤ st.wrap) (t : ERat) (block : Nat) (hb : 1 ≤ block)
    (fuel : Nat) (hfuel : s.length + 1 - p.rows < fuel) :
    ∃ dm, toDiscrete p = .ok dm ∧
      ∃ hs, collect (kernelsLane p dm st arm buf) t block fuel State.init = .ok hs ∧
        hs.Perm ((C02.allQual (C02.scoreAt p s) t (s.length + 1 - p.rows)).map
          (C02.mkHit (C02.scoreAt p s))) := by
  obtain ⟨dm, hdm⟩ := C08.toDiscrete_ok p
  exact ⟨dm, hdm, C02.collect_spec
    (kernelsLane_spec arm buf hfin hK hK16 hdm hf st s hinv hs hM hwrap) t block hb fuel hfuel⟩

/-- **C03 for the lane-level kernels**: `C03.scanner_best_hit`, word for word -/
theorem scanner_best_hit_lane (arm : Disc.Arm) (buf : Nat → Nat → LMV.Scores UInt8 32)
    {p : Mat ERat K} {x : ℕ → ℕ → ℚ} (hfin : C08.FiniteEntries p x) (hK : 2 ≤ K) (hK16 : K ≤ 16)
    (hf : 0 < C08.facQ K x p.rows)
    (st : Striped 32) (s : List Nat) (hinv : Inv (K - 1) st s) (hs : ∀ a ∈ s, a < K)
    (hM : 1 ≤ p.rows) (hwrap : p.rows - 1 ≤ st.wrap) (t : ERat) (block : Nat) (hb : 1 ≤ block)
    (n : Nat) :
    ∃ dm, toDiscrete p = .ok dm ∧
      ∃ ret state rest r,
        nextN (kernelsLane p dm st arm buf) t block n State.init = .ok (ret, state) ∧
        Scanner.max (kernelsLane p dm st arm buf) t block state = .ok r ∧
        (ret ++ rest).Perm
          ((C02.allQual (C02.scoreAt p s) t (s.length + 1 - p.rows)).map
            (C02.mkHit (C02.scoreAt p s))) ∧
        (r = none ↔ rest = []) ∧
        ∀ b, r = some b → b ∈ rest ∧ ∀ h ∈ rest, ERat.le h.score b.score = true := by
  obtain ⟨dm, hdm⟩ := C08.toDiscrete_ok p
  exact ⟨dm, hdm, C03.best_hit_of_spec
    (kernelsLane_spec arm buf hfin hK hK16 hdm hf st s hinv hs hM hwrap) t block hb n⟩

/-! #### and to kernels whose `max` / `threshold` are C07's table-driven functions -/

/-- the kernels of a `Scanner` whose block scoring is C01's lane-level `u8` pipeline (as in
    `kernelsLane`), whose block maximum is C07's dispatcher `Maximum<u8, U32> for Pipeline<A, Dispatch>`
    (`Maximum.dispMaxU8`: arm table `dispU8Max`, kernel tables `mu8Init` / `mu8AccFirst` /
    `genericArgmaxRel` of `LMV.Gen.MaxK`) and whose candidate list is C07's trait-default
    `Threshold::threshold` (`Maximum.thresholdGeneric`: `genericThresholdRel`) -/
def kernelsC07 [Inhabited α] (pssm : Mat α K) (dm : Discrete α K) (seq : Striped 32) (arm : Disc.Arm)
    (buf : Nat → Nat → LMV.Scores UInt8 32) : Kernels α 32 where
  seqRows := seq.data.rows - seq.wrap
  scoreRows lo hi :=
    (Score.dispatchU8 (armOf arm) 0 satU8 satU8 dm.data seq lo hi (buf lo hi)).map toDisc
  max := fun sc =>
    Maximum.dispMaxU8 C07.u8Cmp (backendOf arm) sc.data.rows (fun r c => sc.data.get r c)
  threshold := fun sc t =>
    Maximum.thresholdGeneric C07.u8Cmp 32 sc.data.rows (fun r c => sc.data.get r c) t
  scorePosition := scorePosition pssm seq
  scale := dm.scale

/-- by `scannerMax_eq_c07` and `scannerThreshold_eq_c07` this is the record of `kernelsLane`, i.e.
    the scanner of C02 / C03 with lane-level block scoring: the hand-written `max` / `threshold` of
    Model/Scanner can be read as C07's -/
theorem kernelsC07_eq_kernelsLane [Inhabited α] (pssm : Mat α K) (dm : Discrete α K)
    (seq : Striped 32) (arm : Disc.Arm) (buf : Nat → Nat → LMV.Scores UInt8 32) :
    kernelsC07 pssm dm seq arm buf = kernelsLane pssm dm seq arm buf := by
  unfold kernelsC07 kernelsLane
  -- the candidate lists are the same by unfolding (`scannerThreshold_eq_c07`)
  congr 1
  exact funext fun sc => (scannerMax_eq_c07 arm sc).symm

/-- the `max` / `threshold` fields of the real `Scanner.kernels` (per-cell block scoring, any build
    profile) are C07's functions too -/
theorem kernels_max_threshold_eq_c07 [Inhabited α] (pssm : Mat α K) (dm : Discrete α K)
    (seq : Striped 32) (arm : Disc.Arm) (mode : AddMode) (sc : Disc.Scores 32) (t : UInt8) :
    (kernels pssm dm seq arm mode).max sc = (kernelsC07 pssm dm seq arm fun _ _ => Score.empty).max sc ∧
    (kernels pssm dm seq arm mode).threshold sc t =
      (kernelsC07 pssm dm seq arm fun _ _ => Score.empty).threshold sc t :=
  ⟨scannerMax_eq_c07 arm sc, scannerThreshold_eq_c07 sc t⟩

theorem kernelsC07_spec (arm : Disc.Arm) (buf : Nat → Nat → LMV.Scores UInt8 32)
    {p : Mat ERat K} {x : ℕ → ℕ → ℚ} (hfin : C08.FiniteEntries p x) (hK : 2 ≤ K) (hK16 : K ≤ 16)
    {dm : Discrete ERat K} (hdm : toDiscrete p = .ok dm) (hf : 0 < C08.facQ K x p.rows)
    (st : Striped 32) (s : List Nat) (hinv : Inv (K - 1) st s) (hs : ∀ a ∈ s, a < K)
    (hM : 1 ≤ p.rows) (hwrap : p.rows - 1 ≤ st.wrap) :
    C02.KernelSpec (kernelsC07 p dm st arm buf) (seqRowsOf 32 s.length)
      (s.length + 1 - p.rows) (C02.scoreAt p s) := by
  rw [kernelsC07_eq_kernelsLane]
  exact kernelsLane_spec arm buf hfin hK hK16 hdm hf st s hinv hs hM hwrap

/-- **C02 on C07's kernels**: `C02.scanner_yields_exactly`, word for word, with lane-level block
    scoring (C01) and the table-driven block maximum / candidate list (C07) -/
theorem scanner_yields_exactly_c07 (arm : Disc.Arm) (buf : Nat → Nat → LMV.Scores UInt8 32)
    {p : Mat ERat K} {x : ℕ → ℕ → ℚ} (hfin : C08.FiniteEntries p x) (hK : 2 ≤ K) (hK16 : K ≤ 16)
    (hf : 0 < C08.facQ K x p.rows)
    (st : Striped 32) (s : List Nat) (hinv : Inv (K - 1) st s) (hs : ∀ a ∈ s, a < K)
    (hM : 1 ≤ p.rows) (hwrap : p.rows - 1 ≤ st.wrap) (t : ERat) (block : Nat) (hb : 1 ≤ block)
    (fuel : Nat) (hfuel : s.length + 1 - p.rows < fuel) :
    ∃ dm, toDiscrete p = .ok dm ∧
      ∃ hs, collect (kernelsC07 p dm st arm buf) t block fuel State.init = .ok hs ∧
        hs.Perm ((C02.allQual (C02.scoreAt p s) t (s.length + 1 - p.rows)).map
          (C02.mkHit (C02.scoreAt p s))) := by
  obtain ⟨dm, hdm⟩ := C08.toDiscrete_ok p
  exact ⟨dm, hdm, C02.collect_spec
    (kernelsC07_spec arm buf hfin hK hK16 hdm hf st s hinv hs hM hwrap) t block hb fuel hfuel⟩

/-- **C03 on C07's kernels**: `C03.scanner_best_hit`, word for word -/
theorem scanner_best_hit_c07 (arm : Disc.Arm) (buf : Nat → Nat → LMV.Scores UInt8 32)
    {p : Mat ERat K} {x : ℕ → ℕ → ℚ} (hfin : C08.FiniteEntries p x) (hK : 2 ≤ K) (hK16 : K ≤ 16)
    (hf : 0 < C08.facQ K x p.rows)
    (st : Striped 32) (s : List Nat) (hinv : Inv (K - 1) st s) (hs : ∀ a ∈ s, a < K)
    (hM : 1 ≤ p.rows) (hwrap : p.rows - 1 ≤ st.wrap) (t : ERat) (block : Nat) (hb : 1 ≤ block)
    (n : Nat) :
    ∃ dm, toDiscrete p = .ok dm ∧
      ∃ ret state rest r,
        nextN (kernelsC07 p dm st arm buf) t block n State.init = .ok (ret, state) ∧
        Scanner.max (kernelsC07 p dm st arm buf) t block state = .ok r ∧
        (ret ++ rest).Perm
          ((C02.allQual (C02.scoreAt p s) t (s.length + 1 - p.rows)).map
            (C02.mkHit (C02.scoreAt p s))) ∧
        (r = none ↔ rest = []) ∧
        ∀ b, r = some b → b ∈ rest ∧ ∀ h ∈ rest, ERat.le h.score b.score = true := by
  obtain ⟨dm, hdm⟩ := C08.toDiscrete_ok p
  exact ⟨dm, hdm, C03.best_hit_of_spec
    (kernelsC07_spec arm buf hfin hK hK16 hdm hf st s hinv hs hM hwrap) t block hb n⟩

/-- the two transferred theorems are about the same scanner as `scanner_yields_exactly_lane` /
    `scanner_best_hit_lane`: every run of `collect`, `nextN`, `Scanner.max` on the two records is the
    same computation -/
theorem runs_c07_eq_lane [Inhabited α] (pssm : Mat α K) (dm : Discrete α K) (seq : Striped 32)
    (arm : Disc.Arm) (buf : Nat → Nat → LMV.Scores UInt8 32) (t : α) (block fuel : Nat)
    (st : State α) :
    collect (kernelsC07 pssm dm seq arm buf) t block fuel st =
      collect (kernelsLane pssm dm seq arm buf) t block fuel st ∧
    nextN (kernelsC07 pssm dm seq arm buf) t block fuel st =
      nextN (kernelsLane pssm dm seq arm buf) t block fuel st ∧
    Scanner.max (kernelsC07 pssm dm seq arm buf) t block st =
      Scanner.max (kernelsLane pssm dm seq arm buf) t block st := by
  rw [kernelsC07_eq_kernelsLane]; exact ⟨rfl, rfl, rfl⟩

end transfer

/-! ### examples for §B2 -/

section B2Examples
open Scanner Disc

/-- a 2-row byte matrix whose `C C` window saturates (200 + 200), wildcard column 0 -/
def bDm : Mat UInt8 5 := Mat.ofFn 2 fun _ j => if j = 4 then 0 else if j = 1 then 200 else 3

-- the hypotheses of `blockScoring_eq_lane` hold on the striped 40-symbol sequence of §B1 …
example : (5 ≤ 16) ∧ 1 ≤ bDm.rows ∧ bDm.rows - 1 ≤ bSeq.wrap ∧ 2 ≤ bSeq.data.rows - bSeq.wrap := by
  decide +kernel
example : C01.SymOK 5 bSeq := C01.symOK_of_inv 4 bSeq bS bSeq_inv (by decide +kernel) (by decide)

def cellsDisc {C : Nat} (r : Except String (Disc.Scores C)) : Option (List (List UInt8) × Nat) :=
  match r with
  | .ok sc => some (sc.data.toLists, sc.maxIndex)
  | .error _ => none

-- … both sides compute (39 = 40 + 1 − 2 positions, two rows), agree on every arm, and saturate
example : ∀ arm ∈ [Disc.Arm.generic, .sse2, .avx2],
    cellsDisc (Disc.scoreRowsDispatch arm .saturating bDm bSeq 0 2) =
      cellsDisc ((Score.dispatchU8 (armOf arm) 0 satU8 satU8 bDm bSeq 0 2 Score.empty).map toDisc) := by
  decide +kernel
example : (cellsDisc ((Score.dispatchU8 .avx2 0 satU8 satU8 bDm bSeq 0 2 Score.empty).map toDisc)).map
    (fun x => (x.1.map (·.take 4), x.2)) = some ([[203, 3, 203, 203], [200, 6, 203, 255]], 39) := by
  decide +kernel
-- a sub-range (the second block of a scanner with block size 1), into a dirty buffer
example : cellsDisc (Disc.scoreRowsDispatch .avx2 .saturating bDm bSeq 1 2) =
    cellsDisc ((Score.dispatchU8 .avx2 0 satU8 satU8 bDm bSeq 1 2 ⟨Mat.ofFn 7 fun _ _ => 9, 5⟩).map toDisc) := by
  decide +kernel

/-- the scanner of C02's example (`C08.pex`: score 1 per `C`), on the 32-column sequence, run on the
    lane-level kernels through the AVX2 arm: positions yielded, in order of emission -/
def runLane (t : ERat) (block : Nat) : Option (List Nat) :=
  match toDiscrete C08.pex with
  | .ok dm =>
    match collect (kernelsLane C08.pex dm bSeq .avx2 fun _ _ => Score.empty) t block 45 State.init with
    | .ok hs => some (hs.map (·.position))
    | .error _ => none
  | .error _ => none

-- the hypotheses of `scanner_yields_exactly_lane` hold (`C08.pex_finite`, `C08.pex_factor_pos`) …
example : ∃ dm, toDiscrete C08.pex = .ok dm ∧
    ∃ hs, collect (kernelsLane C08.pex dm bSeq .avx2 fun _ _ => Score.empty) (.fin 2) 1 45 State.init = .ok hs ∧
      hs.Perm ((C02.allQual (C02.scoreAt C08.pex bS) (.fin 2) (bS.length + 1 - C08.pex.rows)).map
        (C02.mkHit (C02.scoreAt C08.pex bS))) :=
  scanner_yields_exactly_lane .avx2 _ C08.pex_finite (by decide) (by decide) C08.pex_factor_pos
    bSeq bS bSeq_inv (by decide +kernel) (by decide +kernel) (by decide +kernel) (.fin 2) 1
    (by decide) 45 (by decide +kernel)
-- … and the run yields the four `C C` positions (threshold 2 = the maximum)
example : runLane (.fin 2) 1 = some [38, 22, 37, 7] ∧ runLane (.fin 2) 3 = some [37, 7, 38, 22] := by
  decide +kernel

/-- the same scanner on C07's kernels (`kernelsC07`: table-driven block maximum and candidate list) -/
def runC07 (arm : Disc.Arm) (t : ERat) (block : Nat) : Option (List Nat) :=
  match toDiscrete C08.pex with
  | .ok dm =>
    match collect (kernelsC07 C08.pex dm bSeq arm fun _ _ => Score.empty) t block 45 State.init with
    | .ok hs => some (hs.map (·.position))
    | .error _ => none
  | .error _ => none

-- the hypotheses of `scanner_yields_exactly_c07` / `scanner_best_hit_c07` hold …
example : ∃ dm, toDiscrete C08.pex = .ok dm ∧
    ∃ hs, collect (kernelsC07 C08.pex dm bSeq .avx2 fun _ _ => Score.empty) (.fin 2) 1 45 State.init = .ok hs ∧
      hs.Perm ((C02.allQual (C02.scoreAt C08.pex bS) (.fin 2) (bS.length + 1 - C08.pex.rows)).map
        (C02.mkHit (C02.scoreAt C08.pex bS))) :=
  scanner_yields_exactly_c07 .avx2 _ C08.pex_finite (by decide) (by decide) C08.pex_factor_pos
    bSeq bS bSeq_inv (by decide +kernel) (by decide +kernel) (by decide +kernel) (.fin 2) 1
    (by decide) 45 (by decide +kernel)
example := scanner_best_hit_c07 .generic (fun _ _ => Score.empty) C08.pex_finite (by decide) (by decide)
  C08.pex_factor_pos bSeq bS bSeq_inv (by decide +kernel) (by decide +kernel) (by decide +kernel)
  (.fin 2) 3 (by decide) 1
-- … and the run on C07's kernels yields the four `C C` positions, on every arm, in the order of the
-- hand-written kernels
example : ∀ arm ∈ [Disc.Arm.generic, .sse2, .avx2],
    runC07 arm (.fin 2) 1 = some [38, 22, 37, 7] ∧ runC07 arm (.fin 2) 3 = some [37, 7, 38, 22] := by
  decide +kernel

end B2Examples

end B2

end Bridge
end LMV
