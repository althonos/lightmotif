/-
  C12 — TFM-PVALUE p-value ranges are consistent with the exact score distribution.

  Exact instance (`Rat`) of the mirror model LMV.Model.Tfm, which mirrors the library with its four
  `fix:` commits to TFM-PVALUE: `lookup_pvalue` no longer seeds the p-value sum from the first row's
  map; the wildcard column is left out of `error_max`; the above-max bucket is carried row by row
  (`stepEntries`); the score window is re-centred in offset-free units (`nextWindow`, C13's
  `sound_next`).
  `tail bg rows x` is P(S ≥ x) for the exact score S of a background-distributed word; it is defined,
  with `totalMass` and the adequacy statement `tail_eq_words`, in the specification section at the
  head of LMV.Lemmas.Tfm.  The shared lemmas (R) `rounding` and (D) `distribution_spec` are there too.
-/
import LMV.Lemmas.Tfm
import LMV.Lemmas.Sums

namespace LMV
namespace C12
open Tfm

theorem tail_antitone {bg : List Rat} (hbg : ∀ b ∈ bg, 0 ≤ b) (rows : List (List Rat)) {x y : Rat}
    (h : x ≤ y) : tail bg rows y ≤ tail bg rows x :=
  expect_mono hbg rows fun _ => ite_le_ite (le_trans h)

-- In the next two, `if True then 1 else 0` and `if False then 1 else 0` are `1` and `0` by unfolding,
-- so that `ite_le_ite` compares the indicator with the constants of `totalMass` and `expect_zero`.
theorem tail_le_total {bg : List Rat} (hbg : ∀ b ∈ bg, 0 ≤ b) (rows : List (List Rat)) (x : Rat) :
    tail bg rows x ≤ totalMass bg rows :=
  expect_mono hbg rows (h := fun _ => 1) fun _ => ite_le_ite (B := True) fun _ => trivial

theorem tail_nonneg {bg : List Rat} (hbg : ∀ b ∈ bg, 0 ≤ b) (rows : List (List Rat)) (x : Rat) :
    0 ≤ tail bg rows x :=
  expect_zero bg rows ▸
    expect_mono hbg rows (f := fun _ => 0) fun _ => ite_le_ite (A := False) False.elim

/-! ### the coupling of the exact score `S` with the integer score `D` of the same word -/

/-- `E[φ(S,D)] ≤ E[ψ(S,D)]` once `φ ≤ ψ` wherever (R) `rounding` allows the pair to be -/
theorem joint_mono {bg : List Rat} (hbg : ∀ b ∈ bg, 0 ≤ b) (g : Rat) (rows : List (List Rat))
    {φ ψ : Rat × Int → Rat}
    (h : ∀ (S : Rat) (D : Int), (D : Rat) ≤ S / g + ((recompute rows g).offsets.sum : Int) →
      S / g + ((recompute rows g).offsets.sum : Int) < (D : Rat) + errorMax g rows + 1 →
      φ (S, D) ≤ ψ (S, D)) :
    expect bg (pairRows g rows) φ ≤ expect bg (pairRows g rows) ψ :=
  expect_mono_reach hbg _ fun sd hr => h sd.1 sd.2 (rounding g rows hr).1 (rounding g rows hr).2

theorem tailD_le_tail {bg : List Rat} (hbg : ∀ b ∈ bg, 0 ≤ b) (rows : List (List Rat)) {g : Rat}
    (hg : 0 < g) {k : Int} {x : Rat}
    (h : x / g + ((recompute rows g).offsets.sum : Int) ≤ k) :
    tailD bg (recompute rows g).im k ≤ tail bg rows x := by
  rw [tail, ← expect_pair_fst bg g rows, tailD, ← expect_pair_snd bg g rows]
  refine joint_mono hbg g rows fun S D r1 _ => ite_le_ite fun (hD : k ≤ D) => ?_
  -- x/g + O ≤ k ≤ D ≤ S/g + O
  exact (div_le_div_iff_of_pos_right hg).1
    (le_of_add_le_add_right ((h.trans (Int.cast_le.2 hD)).trans r1))

theorem tail_le_tailD {bg : List Rat} (hbg : ∀ b ∈ bg, 0 ≤ b) (rows : List (List Rat)) {g : Rat}
    (hg : 0 < g) {k : Int} {x : Rat}
    (h : (k : Rat) + errorMax g rows ≤ x / g + ((recompute rows g).offsets.sum : Int)) :
    tail bg rows x ≤ tailD bg (recompute rows g).im k := by
  rw [tail, ← expect_pair_fst bg g rows, tailD, ← expect_pair_snd bg g rows]
  refine joint_mono hbg g rows fun S D _ r2 => ite_le_ite fun (hS : x ≤ S) => ?_
  -- k + E ≤ x/g + O ≤ S/g + O < D + E + 1
  have : (k : Rat) + errorMax g rows < ((D + 1 : Int) : Rat) + errorMax g rows := by
    rw [Int.cast_add, Int.cast_one, add_right_comm]
    exact (h.trans (add_le_add_left (div_le_div_of_nonneg_right hS hg.le) _)).trans_lt r2
  exact Int.lt_add_one_iff.1 (Int.cast_lt.1 (lt_of_add_lt_add_right this))

/-! ### the two look-ups inside `lookup_pvalue` -/

/-- `s` of `lookup_pvalue` (`if l >= avg { s = l }` over the keys from the top down, a `foldr` inside
    `lookupPvalue`): the least key `≥ avg` of an ascending map, `d` when there is none -/
def firstGe (q : List (Int × Rat)) (avg d : Int) : Int :=
  q.foldr (fun e s => if avg ≤ e.1 then e.1 else s) d

/-- it selects the same entries as `avg` itself -/
theorem firstGe_spec {q : List (Int × Rat)} (hq : q.Pairwise (fun a b => a.1 ≤ b.1))
    (avg d : Int) (hd : avg ≤ d) :
    avg ≤ firstGe q avg d ∧ ∀ e ∈ q, (firstGe q avg d ≤ e.1 ↔ avg ≤ e.1) := by
  unfold firstGe
  induction q with
  | nil => exact ⟨hd, fun e he => absurd he List.not_mem_nil⟩
  | cons e0 t ih =>
    rw [List.pairwise_cons] at hq
    obtain ⟨i1, i2⟩ := ih hq.2
    simp only [List.foldr_cons]
    by_cases h : avg ≤ e0.1
    · rw [if_pos h]
      refine ⟨h, fun e he => ?_⟩
      rcases List.mem_cons.1 he with rfl | he
      · exact iff_of_true le_rfl h
      · exact iff_of_true (hq.1 e he) (h.trans (hq.1 e he))
    · rw [if_neg h]
      refine ⟨i1, fun e he => ?_⟩
      rcases List.mem_cons.1 he with rfl | he
      · exact iff_of_false (fun h' => h (i1.trans h')) h
      · exact i2 e he

theorem walkDown_mem (thr : Rat) (l : List Int) (d : Int) :
    walkDown thr l d = d ∨ walkDown thr l d ∈ l := by
  fun_induction walkDown thr l d with
  | case1 => exact Or.inl rfl  -- no keys
  | case2 => exact Or.inr List.mem_cons_self  -- `kmax == 0`: the last key
  | case3 k _ _ _ _ ih => exact ih.imp_right (List.mem_cons_of_mem k)  -- the test holds: one key down
  | case4 => exact Or.inr List.mem_cons_self  -- the test fails: the walk stops at this key

/-- **C12, one step, sharp form.**  For every matrix (rows in any order), every non-negative
    background, every granularity `g > 0` and every score `s`, with `E = error_max`:
    `P(S ≥ s+(E+1)g) ≤ pmin ≤ pmax ≤ P(S ≥ s-(E+2)g)`.
    `pmin` is read at `s'`, the least key `≥ avg = ⌊X⌋`; no key lies in `[avg, s')`, so it is
    `P(D ≥ avg)`.  `pmax` is read at the key `kmax` where `walkDown` stops, and all the proof uses of
    that is `min ≤ kmax ≤ s'` (`walkDown_mem`: a key at or below `s'`, and every key is `≥ min`); the
    stopping test plays no role, since `P(D ≥ min)` with `min = ⌊X - E - 1⌋` is already within the
    bound. -/
theorem lookupPvalue_spec {bg : List Rat} (hbg : ∀ b ∈ bg, 0 ≤ b) (rows : List (List Rat))
    (hne : rows ≠ []) {g : Rat} (hg : 0 < g) (s : Rat) :
    tail bg rows (s + (errorMax g rows + 1) * g) ≤ (lookupPvalue (recompute rows g) bg s).1 ∧
      (lookupPvalue (recompute rows g) bg s).1 ≤ (lookupPvalue (recompute rows g) bg s).2 ∧
      (lookupPvalue (recompute rows g) bg s).2 ≤ tail bg rows (s - (errorMax g rows + 2) * g) := by
  have hE0 := errorMax_nonneg g rows
  let rc := recompute rows g
  let E := errorMax g rows
  let X : Rat := s / g + ((rc.offsets.sum : Int) : Rat)
  let avg := ⌊X⌋
  let mn := ⌊X - E - 1⌋
  let mx := ⌊X + E + 1⌋
  have hmin_avg : mn ≤ avg := floor_sub_errorMax_le g rows X
  have havg_max : avg ≤ mx + 1 := Int.le_add_one (Int.floor_le_floor
    ((le_add_of_nonneg_right hE0).trans (le_add_of_nonneg_right zero_le_one)))
  let Q := distribution rc.im bg mn mx
  have him : NonnegRows rc.im := nonneg_im g rows
  have hne' : rc.im ≠ [] := fun h => hne (List.map_eq_nil_iff.1 h)
  have hQlo : ∀ e ∈ Q, mn ≤ e.1 := fun e he =>
    (distribution_keys him (hmin_avg.trans havg_max) e.1 (mem_keys.2 ⟨e, he, rfl⟩)).1
  have hnn : ∀ e ∈ Q, 0 ≤ e.2 := distribution_nonneg hbg rc.im mn mx
  have hT : ∀ k, mn ≤ k → k ≤ mx + 1 → tailFrom Q k = tailD bg rc.im k :=
    fun k h1 h2 => tailFrom_distribution bg him hne' h1 h2
  let s' := firstGe Q avg (mx + 1)
  obtain ⟨hs'1, hs'2⟩ : avg ≤ s' ∧ ∀ e ∈ Q, (s' ≤ e.1 ↔ avg ≤ e.1) :=
    firstGe_spec ((distribution_sorted bg rc.im mn mx).imp le_of_lt) avg (mx + 1) havg_max
  let below := (Q.filter (fun e => decide (e.1 ≤ s'))).map (·.1)
  let kmax := walkDown (Num.ofInt s' - rc.errorMax) below.reverse s'
  -- the tie to the model: `lookupPvalue` unfolds to this (its window `let`, the `foldr` that is
  -- `firstGe`, and `-ₙ` at `Rat`)
  have hlk : lookupPvalue rc bg s = (tailFrom Q s', tailFrom Q kmax) := rfl
  have hkmax_mem : mn ≤ kmax ∧ kmax ≤ s' := by
    obtain h | h : kmax = s' ∨ kmax ∈ below.reverse := walkDown_mem _ below.reverse s'
    · rw [h]; exact ⟨hmin_avg.trans hs'1, le_rfl⟩
    · obtain ⟨e, he, hek⟩ := List.mem_map.1 (List.mem_reverse.1 h)
      obtain ⟨heQ, hes⟩ := List.mem_filter.1 he
      rw [← hek]
      exact ⟨hQlo e heQ, of_decide_eq_true hes⟩
  -- pmin = P(D ≥ avg): no key lies in `[avg, s')`
  have hpmin : tailFrom Q s' = tailD bg rc.im avg := by
    rw [← hT avg hmin_avg havg_max]
    refine (tailFrom_eq_of_no_key (fun e he => ?_) hs'1).symm
    by_cases h : avg ≤ e.1
    · exact Or.inr ((hs'2 e he).2 h)
    · exact Or.inl (not_le.1 h)
  rw [hlk]
  refine ⟨?_, tailFrom_antitone hnn hkmax_mem.2, ?_⟩
  · rw [hpmin]
    refine tail_le_tailD hbg rows hg ?_
    -- `⌊X⌋ + E ≤ X + (E + 1)`, the right side being `(s + (E + 1) * g) / g + O`
    rw [add_div, mul_div_cancel_right₀ _ hg.ne', add_right_comm]
    exact add_le_add (Int.floor_le X) (le_add_of_nonneg_right zero_le_one)
  · -- pmax ≤ P(D ≥ min): every key is `≥ min`
    refine le_trans (tailFrom_antitone hnn hkmax_mem.1) ?_
    rw [hT mn le_rfl (hmin_avg.trans havg_max)]
    refine tailD_le_tail hbg rows hg ?_
    -- `(s - (E + 2) * g) / g + O` is `X - E - 1 - 1`, which is below `⌊X - E - 1⌋`
    rw [sub_div, mul_div_cancel_right₀ _ hg.ne', sub_add_eq_add_sub, ← one_add_one_eq_two, ← add_assoc,
      sub_add_eq_sub_sub, sub_add_eq_sub_sub]
    exact (Int.sub_one_lt_floor (X - E - 1)).le

/-! ### the total mass -/

theorem sum_zip_snd_le {β : Type} {bg : List Rat} (hbg : ∀ b ∈ bg, 0 ≤ b) (r : List β) :
    0 ≤ ((r.zip bg).map (·.2)).sum ∧ ((r.zip bg).map (·.2)).sum ≤ bg.sum := by
  unfold List.zip
  fun_induction List.zipWith Prod.mk r bg with
  | case1 _ _ b _ ih =>
    obtain ⟨h1, h2⟩ := ih fun b' hb' => hbg b' (List.mem_cons_of_mem _ hb')
    rw [List.map_cons, List.sum_cons, List.sum_cons]
    exact ⟨add_nonneg (hbg b List.mem_cons_self) h1, add_le_add_right h2 b⟩
  | case2 => exact ⟨le_rfl, List.sum_nonneg hbg⟩  -- one of the lists has run out: the sum is 0

theorem totalMass_bounds {bg : List Rat} (hbg : ∀ b ∈ bg, 0 ≤ b) (hsum : bg.sum ≤ 1)
    (rows : List (List Rat)) : 0 ≤ totalMass bg rows ∧ totalMass bg rows ≤ 1 := by
  induction rows with
  | nil => exact ⟨zero_le_one, le_rfl⟩
  | cons r rs ih =>
    obtain ⟨h1, h2⟩ := sum_zip_snd_le hbg r
    simp only [totalMass, expect] at ih ⊢
    rw [List.sum_map_mul_right]
    exact ⟨mul_nonneg h1 ih.1, mul_le_one₀ (h2.trans hsum) ih.1 ih.2⟩

/-! ### the score distribution does not depend on the order of the rows -/

theorem list_sum_comm {β γ : Type} (l₁ : List β) (l₂ : List γ) (F : β → γ → Rat) :
    (l₁.map fun a => (l₂.map fun b => F a b).sum).sum =
      (l₂.map fun b => (l₁.map fun a => F a b).sum).sum := by
  induction l₁ with
  | nil => simp
  | cons a t ih => simp only [List.map_cons, List.sum_cons, ih, List.sum_map_add]

theorem expect_perm (bg : List Rat) {rows rows' : List (List Rat)} (h : rows.Perm rows')
    (f : Rat → Rat) : expect bg rows f = expect bg rows' f := by
  induction h generalizing f with
  | nil => rfl
  | cons r _ ih =>
    refine congrArg List.sum (List.map_congr_left fun xb _ => ?_)
    rw [ih]
  | swap a b l =>
    simp only [expect]
    simp only [← List.sum_map_mul_left]
    rw [list_sum_comm]
    refine congrArg List.sum (List.map_congr_left fun xa _ => ?_)
    refine congrArg List.sum (List.map_congr_left fun xb _ => ?_)
    rw [funext fun s => congrArg f (add_left_comm xb.1 xa.1 s), mul_left_comm]
  | trans _ _ ih₁ ih₂ => rw [ih₁, ih₂]

theorem permute_perm {β : Type} (rows : List (List β)) {perm : List Nat}
    (hperm : perm.Perm (List.range rows.length)) : (permute rows perm).Perm rows := by
  have h := hperm.map fun p => rows.getD p []
  rwa [← eq_map_range_getD rows []] at h

theorem tail_permute (bg : List Rat) (rows : List (List Rat)) {perm : List Nat}
    (hperm : perm.Perm (List.range rows.length)) (x : Rat) :
    tail bg (permute rows perm) x = tail bg rows x :=
  expect_perm bg (permute_perm rows hperm) _

/-- what the driver checks of the implementation's permutation implies the hypothesis the theorems
    use: it is a permutation of the row indices -/
theorem admissiblePerm_perm {ranges : List Float32} {perm : List Nat}
    (h : admissiblePerm ranges perm = true) : perm.Perm (List.range ranges.length) := by
  simp only [admissiblePerm, Bool.and_eq_true, beq_iff_eq, List.all_eq_true, List.mem_range,
    List.contains_eq_mem, decide_eq_true_eq] at h
  obtain ⟨⟨hlen, hall⟩, _⟩ := h
  have hsub : List.range ranges.length ⊆ perm := fun i hi => hall i (List.mem_range.1 hi)
  have hsp : (List.range ranges.length).Subperm perm :=
    List.subperm_of_subset List.nodup_range hsub
  exact (hsp.perm_of_length_le (by simp [hlen])).symm

/-! ### every refinement step -/

theorem div_ten_pos {g : Rat} (hg : 0 < g) : 0 < g / 10 := by positivity

theorem div_ten_pow (g : Rat) (k : Nat) : g / 10 / 10 ^ k = g / 10 ^ (k + 1) := by
  rw [pow_succ', div_div]

theorem tenth_div_pow (k : Nat) : (1 / 10 : Rat) / 10 ^ k = (1 / 10) ^ (k + 1) := by
  rw [one_div, div_eq_mul_inv, pow_succ', inv_pow]

theorem pvalueSteps_mem {rows : List (List Rat)} {bg : List Rat} {s : Rat} {fuel : Nat} {g : Rat}
    {conv : Bool} {it : Iteration Rat} (h : it ∈ pvalueSteps rows bg s fuel g conv) (hg : 0 < g) :
    (∃ k : Nat, it.granularity = g / 10 ^ k) ∧
      (it.start, it.stop) = lookupPvalue (recompute rows it.granularity) bg s := by
  fun_induction pvalueSteps rows bg s fuel g conv with
  | case1 => cases h  -- no fuel
  | case2 => cases h  -- converged, or `g ≤ 0`
  | case3 _ g _ _ _ _ _ heq _ ih =>  -- one iteration, then on with `g / 10`
    rcases List.mem_cons.1 h with rfl | h
    · exact ⟨⟨0, by rw [pow_zero, div_one]⟩, heq.symm⟩
    · obtain ⟨⟨k, hk⟩, h3⟩ := ih h (div_ten_pos hg)
      exact ⟨⟨k + 1, hk.trans (div_ten_pow g k)⟩, h3⟩

/-- **C12.**  Every `Iteration` of `approximate_pvalue(s)` — for every matrix, every order of its
    rows, every non-negative background, every score — is taken at a granularity `g = 10^-(k+1)`
    and reports `pmin ≤ pmax` with `P(S ≥ s+(M+1)g) ≤ pmin`, `pmax ≤ P(S ≥ s-(M+2)g)`,
    `0 ≤ pmin`, `pmax ≤` total mass (`≤ 1` when the background sums to at most 1, `totalMass_bounds`);
    `S` is the exact score of a background-distributed word under the ORIGINAL row order.
    Stated for every non-empty matrix; its `M = 1` instance is about the model only, which does not
    mirror the Rust there (header of LMV.Model.Tfm, `qvalues`). -/
theorem c12 {bg : List Rat} (hbg : ∀ b ∈ bg, 0 ≤ b) (rows : List (List Rat)) (hne : rows ≠ [])
    {perm : List Nat} (hperm : perm.Perm (List.range rows.length)) (s : Rat) (fuel : Nat)
    {it : Iteration Rat} (hit : it ∈ approximatePvalue (permute rows perm) bg s fuel) :
    (∃ k : Nat, it.granularity = (1 / 10) ^ (k + 1)) ∧
      it.start ≤ it.stop ∧ 0 ≤ it.start ∧ it.stop ≤ totalMass bg rows ∧
      tail bg rows (s + (rows.length + 1) * it.granularity) ≤ it.start ∧
      it.stop ≤ tail bg rows (s - (rows.length + 2) * it.granularity) := by
  obtain ⟨⟨k, hk⟩, hlk⟩ := pvalueSteps_mem hit (by rw [tenth_rat]; norm_num)
  have hg : 0 < it.granularity := by rw [hk]; simp only [tenth_rat]; positivity
  have hlen : (permute rows perm).length = rows.length := (permute_perm rows hperm).length_eq
  have hne' : permute rows perm ≠ [] := by
    intro h; rw [h] at hlen; exact hne (List.length_eq_zero_iff.1 hlen.symm)
  obtain ⟨h1, h2, h3⟩ := lookupPvalue_spec hbg _ hne' hg s
  rw [← hlk] at h1 h2 h3
  have hE1 : errorMax it.granularity (permute rows perm) ≤ rows.length := by
    rw [← hlen]; exact (errorMax_le it.granularity hne').trans (sub_le_self _ zero_le_one)
  rw [tail_permute bg rows hperm] at h1 h3
  -- `E ≤ M` widens the distance from `s` on either side
  have hw : ∀ c : Rat, (errorMax it.granularity (permute rows perm) + c) * it.granularity ≤
      (rows.length + c) * it.granularity :=
    fun c => mul_le_mul_of_nonneg_right (add_le_add_left hE1 c) hg.le
  refine ⟨⟨k, ?_⟩, h2, ?_, ?_, ?_, ?_⟩
  · rw [hk]; exact tenth_div_pow k
  · exact le_trans (tail_nonneg hbg rows _) h1
  · exact le_trans h3 (tail_le_total hbg rows _)
  · exact le_trans (tail_antitone hbg rows (add_le_add_right (hw 1) s)) h1
  · exact le_trans h3 (tail_antitone hbg rows (sub_le_sub_left (hw 2) s))

/-- the hypotheses of `c12` are satisfiable and the iterator does produce iterations -/
example : ∃ it, it ∈ approximatePvalue (permute [[(1 : Rat), -1], [0, 2]] [1, 0]) [1 / 2, 1 / 2] (1 / 3) 1 := by
  simp [approximatePvalue, pvalueSteps]

/-- the property as stated in properties.jsonl (width `M ≥ 2`, a background that is a probability
    vector on the non-wildcard symbols), for the model -/
def Statement : Prop :=
  ∀ (bg : List Rat) (rows : List (List Rat)) (perm : List Nat) (s : Rat) (fuel : Nat),
    (∀ b ∈ bg, 0 ≤ b) → bg.sum ≤ 1 → 2 ≤ rows.length → perm.Perm (List.range rows.length) →
    ∀ it ∈ approximatePvalue (permute rows perm) bg s fuel,
      it.start ≤ it.stop ∧ 0 ≤ it.start ∧ it.stop ≤ 1 ∧
        tail bg rows (s + (rows.length + 1) * it.granularity) ≤ it.start ∧
        it.stop ≤ tail bg rows (s - (rows.length + 2) * it.granularity)

theorem c12_statement : Statement := by
  intro bg rows perm s fuel hbg hsum hM hperm it hit
  have hne : rows ≠ [] := ne_nil_of_two_le hM
  obtain ⟨_, h1, h2, h3, h4, h5⟩ := c12 hbg rows hne hperm s fuel hit
  exact ⟨h1, h2, le_trans h3 (totalMass_bounds hbg hsum rows).2, h4, h5⟩

end C12
end LMV
