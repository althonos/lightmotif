/-
  C10 — Reverse-complementing a motif mirrors its scores on the opposite strand.

  `complOK_dna` is a kernel evaluation over the complement table regenerated from abc.rs on every
  run; everything else is proved for every alphabet satisfying `ComplOK`, every carrier, every
  width and every content (wildcard column included).
-/
import LMV.Model.Revcomp
import LMV.Lemmas.FoldPerm
import LMV.Lemmas.Patch
import LMV.Props.C09

namespace LMV
namespace C10

open Revcomp Pwm

/-! ### the complement table -/

/-- what the unbounded theorems use about the regenerated tables: `symbols()` enumerates the
    indices `0..K`, `complement` stays inside the alphabet and is an involution -/
def ComplOK (A : Alphabet) : Prop :=
  A.symbols = List.range A.K ∧
  ∀ j, j < A.K → A.complement j < A.K ∧ A.complement (A.complement j) = j

instance (A : Alphabet) : Decidable (ComplOK A) := by unfold ComplOK; infer_instance

/-- **complement is an involution** of the DNA alphabet (decided on the regenerated table) -/
theorem complOK_dna : ComplOK dna := by decide +kernel

/-- the table is the one the property names: A↔T, C↔G, N↔N (indices A C T G N = 0 1 2 3 4) -/
theorem complement_dna_table :
    (List.range 5).map dna.complement = [2, 3, 0, 1, 4] ∧ dna.K = 5 ∧ dna.dflt = 4 ∧
    dna.complement dna.dflt = dna.dflt := by decide +kernel

example : dna.complement 0 = 2 ∧ dna.complement 3 = 1 := by decide

/-! ### closed form of the loop nest

  Through `Mat.Patch` (Lemmas/Patch.lean: a loop of patches is a patch); the last argument of
  `Patch.foldl` / `Patch.range` says that the region written is the union of the regions of the steps. -/

section closed
variable {α : Type} [Inhabited α] {K : Nat}

theorem rcRow_patch (A : Alphabet) (m : Mat α K) (src : Nat) (d : Mat α K) (i : Nat)
    {v : Nat → Nat → α} (hv : ∀ c, v i c = m.get src (A.complement c)) :
    Mat.Patch d (rcRow A m src d i) (fun r c => r = i ∧ c ∈ A.symbols) v :=
  Mat.Patch.foldl A.symbols (fun s d => d.set i s (m.get src (A.complement s)))
    (fun s r c => r = i ∧ c = s) d (fun s _ d' => Mat.Patch.set d' i s _ (hv s))
    fun _ c _ _ => ⟨fun h => ⟨c, h.2, h.1, rfl⟩, fun ⟨_, hs, hr, hc⟩ => ⟨hr, hc ▸ hs⟩⟩

theorem rc_patch (A : Alphabet) (z : α) (m : Mat α K) :
    Mat.Patch ((Mat.empty : Mat α K).resize m.rows z) (rc A z m)
      (fun r c => r < m.rows ∧ c ∈ A.symbols) (fun r c => m.get (m.rows - 1 - r) (A.complement c)) :=
  Mat.Patch.range (fun i d => rcRow A m (m.rows - 1 - i) d i) (fun i r c => r = i ∧ c ∈ A.symbols) _ _
    (fun i _ d' _ => rcRow_patch A m _ d' i fun _ => rfl)
    fun r _ _ _ => ⟨fun h => ⟨r, h.1, rfl, h.2⟩, fun ⟨_, hi, hr, hc⟩ => ⟨hr ▸ hi, hc⟩⟩

theorem rc_rows (A : Alphabet) (z : α) (m : Mat α K) : (rc A z m).rows = m.rows :=
  (rc_patch A z m).rows.trans (Mat.rows_resize ..)

/-- **closed form**: the reverse complement is row reversal composed with the column permutation
    by `complement` (needs only that `symbols()` lists column `j`) -/
theorem rc_get (A : Alphabet) (z : α) (m : Mat α K) (i j : Nat)
    (hi : i < m.rows) (hj : j < K) (hs : j ∈ A.symbols) :
    (rc A z m).get i j = m.get (m.rows - 1 - i) (A.complement j) :=
  -- `get m i j` is `getD m i j default` by `rfl`; `Patch.hit` is stated for every default
  (rc_patch A z m).hit i j (by rwa [Mat.rows_resize]) hj ⟨hi, hs⟩ default

end closed

theorem rev_index {n i : Nat} (h : i < n) : i + (n - 1 - i) + 1 = n := by
  rw [Nat.add_sub_cancel' (Nat.le_sub_one_of_lt h), Nat.sub_add_cancel (Nat.zero_lt_of_lt h)]

/-! ### theorems for an alphabet whose tables satisfy `ComplOK` -/

section main
variable {A : Alphabet} (T : ComplOK A)
include T

theorem compl_lt {j : Nat} (hj : j < A.K) : A.complement j < A.K := (T.2 j hj).1
theorem compl_compl {j : Nat} (hj : j < A.K) : A.complement (A.complement j) = j := (T.2 j hj).2

theorem compl_eq_iff {j a : Nat} (hj : j < A.K) (ha : a < A.K) : A.complement j = a ↔ j = A.complement a :=
  ⟨fun e => by rw [← e, compl_compl T hj], fun e => by rw [e, compl_compl T ha]⟩

variable {α : Type} [Inhabited α]

theorem rc_cell (z : α) (m : Mat α A.K) (i j : Nat) (hi : i < m.rows) (hj : j < A.K) :
    (rc A z m).get i j = m.get (m.rows - 1 - i) (A.complement j) :=
  rc_get A z m i j hi hj (by rw [T.1]; exact List.mem_range.mpr hj)

/-- **rc (rc m) = m** for any carrier, any width, any content; the fill values are irrelevant -/
theorem rc_rc (z z' : α) (m : Mat α A.K) : rc A z' (rc A z m) = m := by
  apply Mat.ext
  · rw [rc_rows, rc_rows]
  · intro i j hi hj
    rw [rc_rows, rc_rows] at hi
    rw [rc_cell T z' _ i j (by rw [rc_rows]; exact hi) hj, rc_rows,
      rc_cell T z m _ _ (Nat.sub_one_sub_lt hi) (compl_lt T hj), compl_compl T hj,
      Nat.sub_sub_self (Nat.le_sub_one_of_lt hi)]

/-- a function of the symbol that is the same on both strands -/
def StrandSym (A : Alphabet) {β : Type} (f : Nat → β) : Prop := ∀ j, j < A.K → f (A.complement j) = f j

/-- a stage that maps every cell by a function of its column commutes with `rc` when that function
    is the same for a column and its complement: `to_weight`, `into_scoring`,
    `to_scoring_with_base` and `rescale` are such stages (no law on the scalar operations) -/
theorem rc_mapCols {β : Type} [Inhabited β] (f : Nat → α → β)
    (hf : StrandSym A f) (z : α) (z' : β) (m : Mat α A.K) :
    (Mat.ofFn (rc A z m).rows fun i j => f j ((rc A z m).get i j) : Mat β A.K) =
      rc A z' (Mat.ofFn m.rows fun i j => f j (m.get i j)) := by
  apply Mat.ext
  · simp only [rc_rows, Mat.rows_ofFn]
  · intro i j hi hj
    rw [Mat.rows_ofFn, rc_rows] at hi
    have h1 : m.rows - 1 - i < m.rows := Nat.sub_one_sub_lt hi
    rw [rc_cell T z' _ i j (by rwa [Mat.rows_ofFn]) hj, Mat.get_ofFn, Mat.get_ofFn, Mat.rows_ofFn,
      rc_rows, if_pos ⟨hi, hj⟩, if_pos ⟨h1, compl_lt T hj⟩, rc_cell T z m i j hi hj, hf j hj]

theorem rc_toWeight [Arith α] (z z' : α) (m : Mat α A.K) (bg : Nat → α) (hbg : StrandSym A bg) :
    toWeight (rc A z m) bg = rc A z' (toWeight m bg) :=
  rc_mapCols T (fun j x => if Arith.beq (bg j) zero then zero else div x (bg j))
    (fun j hj => by dsimp only; rw [hbg j hj]) z z' m

theorem rc_intoScoring [Arith α] [Logs α] (z z' : α) (m : Mat α A.K) (bg : Nat → α)
    (hbg : StrandSym A bg) :
    intoScoring (rc A z m) bg = rc A z' (intoScoring m bg) :=
  rc_mapCols T (fun j x => if Arith.beq (bg j) zero then negInf else log2 (div x (bg j)))
    (fun j hj => by dsimp only; rw [hbg j hj]) z z' m

theorem rc_toScoringWithBase [Arith α] [Logs α] (z z' : α) (w : Mat α A.K) (base : α) :
    toScoringWithBase (rc A z w) base = rc A z' (toScoringWithBase w base) :=
  rc_mapCols T (fun _ x => logBase base x) (fun _ _ => rfl) z z' w

/-- `rescale` commutes with `rc` when both backgrounds are strand-symmetric -/
theorem rc_rescale [Arith α] (z z' : α) (w : Mat α A.K) (old new : Nat → α)
    (ho : StrandSym A old) (hn : StrandSym A new) :
    rescale (rc A z w) old new = rc A z' (rescale w old new) := by
  unfold rescale
  by_cases h : bgDiffers A.K new old = true
  · rw [if_pos h, if_pos h]
    exact rc_mapCols T (fun j x => if Arith.beq (new j) zero then zero else mul x (div (old j) (new j)))
      (fun j hj => by dsimp only; rw [ho j hj, hn j hj]) z z' w
  · rw [if_neg h, if_neg h]
    exact Mat.ext (by rw [rc_rows, rc_rows]) fun i j hi hj => by
      rw [rc_rows] at hi; rw [rc_cell T z _ i j hi hj, rc_cell T z' _ i j hi hj]

/-- the row-normalising stage: **`to_freq` commutes with `rc`** when `add` is associative and
    commutative (the row total is the same sum in another order) and the pseudocounts are
    strand-symmetric; `ofNat` and `div` are arbitrary -/
theorem rc_toFreq [Arith α]
    (assoc : ∀ a b c : α, add (add a b) c = add a (add b c)) (comm : ∀ a b : α, add a b = add b a)
    (z : α) (c : Mat Nat A.K) (p : Nat → α) (hp : StrandSym A p) :
    toFreq (rc A 0 c) p = rc A z (toFreq c p) := by
  apply Mat.ext
  · rw [C09.toFreq_rows, rc_rows, rc_rows, C09.toFreq_rows]
  · intro i j hi hj
    rw [C09.toFreq_rows, rc_rows] at hi
    rw [rc_cell T z _ i j (by rwa [C09.toFreq_rows]) hj]
    simp only [toFreq, Mat.get_ofFn, Mat.rows_ofFn, rc_rows]
    have h1 : c.rows - 1 - i < c.rows := Nat.sub_one_sub_lt hi
    simp only [hi, hj, h1, compl_lt T hj, and_self, if_true]
    rw [rc_cell T 0 c i j hi hj, hp j hj]
    refine congrArg (div _) ?_
    exact FoldPerm.foldl_involution add assoc comm A.K A.complement
      (fun j hj => compl_lt T hj) (fun j hj => compl_compl T hj)
      (fun j => add (Arith.ofNat (c.get (c.rows - 1 - i) j)) (p j)) _
      (fun k hk => by rw [rc_cell T 0 c i k hi hk, hp k hk]) _

theorem rc_toFreq_rat (c : Mat Nat A.K) (p : Nat → Rat) (hp : StrandSym A p) :
    toFreq (rc A 0 c) p = rc A 0 (toFreq c p) :=
  rc_toFreq T (fun a b c => Rat.add_assoc a b c) (fun a b => Rat.add_comm a b) 0 c p hp

/-- **reverse-complementing commutes with the whole conversion chain** counts → frequencies →
    weights → scores in any base (and with the one-step route), under strand-symmetric
    pseudocounts and background, for every carrier whose `add` is associative and commutative -/
theorem rc_pipeline [Arith α] [Logs α]
    (assoc : ∀ a b c : α, add (add a b) c = add a (add b c)) (comm : ∀ a b : α, add a b = add b a)
    (z : α) (c : Mat Nat A.K) (p bg : Nat → α) (base : α)
    (hp : StrandSym A p) (hbg : StrandSym A bg) :
    toScoringWithBase (toWeight (toFreq (rc A 0 c) p) bg) base
        = rc A z (toScoringWithBase (toWeight (toFreq c p) bg) base) ∧
    intoScoring (toFreq (rc A 0 c) p) bg = rc A z (intoScoring (toFreq c p) bg) := by
  rw [rc_toFreq T assoc comm z c p hp]
  exact ⟨by rw [rc_toWeight T z z _ bg hbg, rc_toScoringWithBase T z z], rc_intoScoring T z z _ bg hbg⟩

omit T in
theorem rcSeq_length (s : List Nat) : (rcSeq A s).length = s.length := by simp [rcSeq]

omit T in
/-- `k` is the mirror image `s.length - 1 - i` of `i`, named by the equation `h` (`rev_index`), which
    says at once that both are inside `s` and needs no truncated subtraction -/
theorem rcSeq_getElem? (s : List Nat) (i k : Nat) (h : i + k + 1 = s.length) :
    (rcSeq A s)[i]? = (s[k]?).map A.complement := by
  unfold rcSeq
  have hi : i < (s.map A.complement).length := by
    rw [List.length_map, ← h]; exact Nat.lt_succ_of_le (Nat.le_add_right i k)
  rw [List.getElem?_reverse hi, List.getElem?_map, List.length_map, ← h, Nat.add_sub_cancel,
    Nat.add_sub_cancel_left]

omit T in
theorem rcSeq_getD (s : List Nat) (i k : Nat) (h : i + k + 1 = s.length) :
    (rcSeq A s).getD i 0 = A.complement (s.getD k 0) := by
  have hk : k < s.length := h ▸ Nat.lt_succ_of_le (Nat.le_add_left k i)
  rw [List.getD_eq_getElem?_getD, List.getD_eq_getElem?_getD, rcSeq_getElem? s i k h,
    List.getElem?_eq_getElem hk]
  rfl

/-- **mirrored scores**: over an associative and commutative `add`, the reverse-complemented
    matrix scores position `L-M-i` of the reverse-complemented sequence exactly as the matrix
    scores position `i` of the sequence (`M = m.rows`, `L = s.length`, window inside the
    sequence, symbols inside the alphabet) -/
theorem mirror_score [Arith α]
    (assoc : ∀ a b c : α, add (add a b) c = add a (add b c)) (comm : ∀ a b : α, add a b = add b a)
    (z : α) (m : Mat α A.K) (s : List Nat) (i : Nat)
    (hs : ∀ x ∈ s, x < A.K) (hi : i + m.rows ≤ s.length) :
    scorePosition (rc A z m) (fun k => (rcSeq A s).getD k 0) (s.length - m.rows - i)
      = scorePosition m (fun k => s.getD k 0) i := by
  unfold scorePosition
  rw [rc_rows]
  apply FoldPerm.foldl_involution add assoc comm m.rows (fun j => m.rows - 1 - j)
    (fun j hj => Nat.sub_one_sub_lt hj) (fun j hj => Nat.sub_sub_self (Nat.le_sub_one_of_lt hj))
  intro j hj
  -- row `j` of `rc m` meets position `L-M-i+j` of `rcSeq s`, the mirror image of position
  -- `i + (M-1-j)` of `s`, which row `M-1-j` of `m` meets
  have hrev : (s.length - m.rows - i + j) + (i + (m.rows - 1 - j)) + 1 = s.length := by
    rw [Nat.add_add_add_comm, Nat.add_assoc, rev_index hj, Nat.sub_add_cancel (Nat.le_sub_of_add_le hi),
      Nat.sub_add_cancel (Nat.le_of_add_left_le hi)]
  have hin : i + (m.rows - 1 - j) < s.length :=
    Nat.lt_of_lt_of_le (Nat.add_lt_add_left (Nat.sub_one_sub_lt hj) i) hi
  have hx : s.getD (i + (m.rows - 1 - j)) 0 < A.K := by
    rw [List.getD_eq_getElem?_getD, List.getElem?_eq_getElem hin]
    exact hs _ (List.getElem_mem _)
  beta_reduce
  rw [rcSeq_getD s _ _ hrev, rc_cell T z m j _ hj (compl_lt T hx), compl_compl T hx]

/-! ### the chain commutes from the sequences on -/

theorem colCount_rcSeq (seqs : List (List Nat)) (L : Nat) (hlen : ∀ s ∈ seqs, s.length = L)
    (hsym : ∀ s ∈ seqs, ∀ x ∈ s, x < A.K) (i a : Nat) (hi : i < L) (ha : a < A.K) :
    C09.colCount (seqs.map (rcSeq A)) i a = C09.colCount seqs (L - 1 - i) (A.complement a) := by
  unfold C09.colCount
  rw [List.filter_map, List.length_map]
  refine congrArg List.length (List.filter_congr ?_)
  intro s hs
  have hl : s.length = L := hlen s hs
  have hk : L - 1 - i < s.length := Nat.lt_of_lt_of_eq (Nat.sub_one_sub_lt hi) hl.symm
  have hx : s[L - 1 - i] < A.K := hsym s hs _ (List.getElem_mem _)
  rw [Function.comp, rcSeq_getElem? s i (L - 1 - i) ((rev_index hi).trans hl.symm),
    List.getElem?_eq_getElem hk]
  simp only [Option.map_some, Option.some_beq_some, beq_eq_beq, compl_eq_iff T hx ha]

/-- **the count matrix of the reverse-complemented sequences is the reverse complement of the
    count matrix** (same sequence count): with `rc_pipeline`, reverse complementation commutes with
    the conversions all the way from the aligned sequences to the scores -/
theorem rc_fromSequences (seqs : List (List Nat)) (hsym : ∀ s ∈ seqs, ∀ x ∈ s, x < A.K)
    (hlen : ∀ s ∈ seqs, s.length = C09.firstLen seqs) :
    ∃ c c', fromSequences (K := A.K) seqs = .ok c ∧
      fromSequences (K := A.K) (seqs.map (rcSeq A)) = .ok c' ∧
      c'.n = c.n ∧ c'.data = rc A 0 c.data := by
  have hfl : C09.firstLen (seqs.map (rcSeq A)) = C09.firstLen seqs := by
    cases seqs with
    | nil => rfl
    | cons s rest => simp [C09.firstLen, rcSeq_length]
  have hsym' : ∀ s ∈ seqs.map (rcSeq A), ∀ x ∈ s, x < A.K := by
    intro s hs x hx
    rcases List.mem_map.mp hs with ⟨t, ht, rfl⟩
    rcases List.mem_map.mp (List.mem_reverse.mp hx) with ⟨y, hy, rfl⟩
    exact compl_lt T (hsym t ht y hy)
  have hlen' : ∀ s ∈ seqs.map (rcSeq A), s.length = C09.firstLen (seqs.map (rcSeq A)) := by
    intro s hs
    rcases List.mem_map.mp hs with ⟨t, ht, rfl⟩
    rw [hfl, rcSeq_length, hlen t ht]
  obtain ⟨c, hc, hn, hrows, hget⟩ := C09.fromSequences_ok (K := A.K) seqs hsym hlen
  obtain ⟨c', hc', hn', hrows', hget'⟩ := C09.fromSequences_ok (K := A.K) _ hsym' hlen'
  refine ⟨c, c', hc, hc', by rw [hn', hn]; simp, ?_⟩
  apply Mat.ext
  · rw [rc_rows, hrows', hrows, hfl]
  · intro i a hi ha
    rw [hrows', hfl] at hi
    rw [hget' i a (by rw [hfl]; exact hi) ha,
      colCount_rcSeq T seqs (C09.firstLen seqs) hlen hsym i a hi ha,
      rc_cell T 0 c.data i a (by rw [hrows]; exact hi) ha, hrows,
      hget _ _ (Nat.sub_one_sub_lt hi) (compl_lt T ha)]

end main

/-! ### the DNA instances and non-vacuity -/

theorem dna_rc_rc {α : Type} [Inhabited α] (z z' : α) (m : Mat α dna.K) :
    rc dna z' (rc dna z m) = m := rc_rc complOK_dna z z' m

theorem dna_mirror_score (m : Mat Rat dna.K) (s : List Nat) (i : Nat)
    (hs : ∀ x ∈ s, x < dna.K) (hi : i + m.rows ≤ s.length) :
    scorePosition (rc dna 0 m) (fun k => (rcSeq dna s).getD k 0) (s.length - m.rows - i)
      = scorePosition m (fun k => s.getD k 0) i :=
  mirror_score complOK_dna (fun a b c => Rat.add_assoc a b c) (fun a b => Rat.add_comm a b) 0 m s i hs hi

/-- a vector that singles out only the wildcard is strand-symmetric when the wildcard is its own
    complement: the uniform background and the scalar pseudocounts of the library are such -/
theorem strandSym_of_dflt {A : Alphabet} (T : ComplOK A) (hc : A.complement A.dflt = A.dflt)
    {α : Type} [Arith α] (x y : α) :
    StrandSym A (fnOf ((List.range A.K).map fun i => if i != A.dflt then x else y)) := by
  intro j hj
  rw [C09.fnOf_map_range _ _ _ (compl_lt T hj), C09.fnOf_map_range _ _ _ hj]
  have : A.complement j = A.dflt ↔ j = A.dflt :=
    ⟨fun h => by rw [← compl_compl T hj, h, hc], fun h => by rw [h, hc]⟩
  by_cases h : j = A.dflt <;> simp [h, this, hc]

theorem strandSym_uniform_dna (c : Rat) :
    StrandSym dna (fnOf (bgUniform (α := Rat) dna.K dna.dflt)) ∧
    StrandSym dna (fnOf (pseudoUniform dna.K dna.dflt c)) :=
  ⟨strandSym_of_dflt complOK_dna (by decide) _ _, strandSym_of_dflt complOK_dna (by decide) _ _⟩

/- non-vacuity: a 2×5 matrix whose reverse complement differs from it, and a window whose
   mirrored score is computed on both sides -/
def exM : Mat Rat dna.K := Mat.ofFn 2 fun i j => ((i * 5 + j : Nat) : Rat)

example : (rc dna 0 exM).get 0 0 = 7 ∧ (rc dna 0 exM).get 1 3 = 1 ∧ rc dna 0 exM ≠ exM := by
  refine ⟨by decide +kernel, by decide +kernel, ?_⟩
  intro h
  have : (rc dna 0 exM).get 0 0 = exM.get 0 0 := by rw [h]
  revert this
  decide +kernel

example :
    scorePosition exM (fun k => [0, 1, 3, 2].getD k 0) 1 = 9 ∧
    scorePosition (rc dna 0 exM) (fun k => (rcSeq dna [0, 1, 3, 2]).getD k 0) (4 - 2 - 1) = 9 ∧
    rcSeq dna [0, 1, 3, 2] = [0, 1, 3, 2] ∧ rcSeq dna [0, 0, 1] = [3, 2, 2] := by
  decide +kernel

end C10
end LMV
