/-
  C07 — maximum, arg-maximum and thresholding of striped scores match their definitions.

  All theorems are about the mirror models of LMV.Model.Maximum (the definitions the compiled driver
  executes against the Rust code), for every row count, over any element type whose comparisons form
  a total preorder (`Cmp.Total` — what "no NaN" means for `f32`; `u8` satisfies it outright).
  Facts about the regenerated tables (`LMV.Gen.MaxK`: initial accumulators, compare predicates,
  load/store offsets, unpack order, `permute2x128` immediates, dispatcher arms) enter by unfolding
  and kernel evaluation, so an edit of the Rust kernels that changes a table breaks these proofs
  (but for the operand order of `max_ps` / `max_epu8`, on which nothing depends).
-/
import LMV.Lemmas.Maximum
import LMV.Lemmas.Outcome

namespace LMV
namespace C07

open Maximum LMV.Gen.MaxK

variable {α : Type}

/-! ### What the property says -/

def HoldsMax (o : Cmp α) (rows C : Nat) (f : Nat → Nat → α) (p : Coord) : Prop :=
  p.1 < rows ∧ p.2 < C ∧ ∀ r c, r < rows → c < C → o.le (f r c) (f p.1 p.2) = true

def IsMax (o : Cmp α) (rows C : Nat) (f : Nat → Nat → α) (v : α) : Prop :=
  (∃ r c, r < rows ∧ c < C ∧ f r c = v) ∧ ∀ r c, r < rows → c < C → o.le (f r c) v = true

theorem HoldsMax.isMax {o : Cmp α} {rows C : Nat} {f : Nat → Nat → α} {p : Coord}
    (h : HoldsMax o rows C f p) : IsMax o rows C f (f p.1 p.2) :=
  ⟨⟨p.1, p.2, h.1, h.2.1, rfl⟩, h.2.2⟩

theorem IsMax.equiv {o : Cmp α} {rows C : Nat} {f : Nat → Nat → α} {v w : α}
    (hv : IsMax o rows C f v) (hw : IsMax o rows C f w) : o.le v w = true ∧ o.le w v = true := by
  obtain ⟨⟨r, c, hr, hc, rfl⟩, hv2⟩ := hv
  obtain ⟨⟨r', c', hr', hc', rfl⟩, hw2⟩ := hw
  exact ⟨hw2 r c hr hc, hv2 r' c' hr' hc'⟩

/-! ### The shape of an answer

  Every entry point answers `None` exactly on the empty matrix and otherwise something with a
  property `P` (`OptSpec`); the vector arg-max kernels moreover panic exactly when an explicit size
  guard fails (`OkUnless`, Lemmas/Outcome).  Each kernel, pipeline and dispatcher arm gets one
  theorem of this form under `Cmp.Total` (`_answer`); "`None` iff empty" and "the answer is a
  maximum" are its projections.  The three vector arg-max kernels get a second one without any order
  hypothesis (`_shape`: NaN does not change when they panic), of which "panics iff" is the
  projection. -/

section Shape
variable {β γ : Type} {rows : Nat} {guard : Prop} {P : β → Prop}

def OptSpec (rows : Nat) (P : β → Prop) : Option β → Prop
  | none => rows = 0
  | some b => rows ≠ 0 ∧ P b

theorem OptSpec.none_iff {a : Option β} (h : OptSpec rows P a) : a = none ↔ rows = 0 := by
  cases a with
  | none => exact ⟨fun _ => h, fun _ => rfl⟩
  | some b => exact ⟨fun e => (by cases e), fun e => absurd e h.1⟩

theorem OptSpec.of_some {a : Option β} (h : OptSpec rows P a) {b : β} (e : a = some b) : P b := by
  subst e; exact h.2

theorem OptSpec.some_of_ne {a : Option β} (h : OptSpec rows P a) (hr : rows ≠ 0) :
    ∃ b, a = some b ∧ P b := by
  cases a with
  | none => exact absurd h hr
  | some b => exact ⟨b, rfl, h.2⟩

theorem OptSpec.map {a : Option β} (h : OptSpec rows P a) (g : β → γ) {Q : γ → Prop}
    (hg : ∀ b, P b → Q (g b)) : OptSpec rows Q (a.map g) := by
  cases a with
  | none => exact h
  | some b => exact ⟨h.1, hg b h.2⟩

theorem _root_.LMV.OkUnless.ok_none_iff {r : Except String (Option β)}
    (h : OkUnless guard (OptSpec rows P) r) (hg : ¬ guard) : r = .ok none ↔ rows = 0 := by
  cases r with
  | error e => exact absurd h hg
  | ok a => rw [← h.2.none_iff]; exact ⟨fun e => by cases e; rfl, fun e => by rw [e]⟩

/-- Through `match r with | .error e => .error e | .ok a => .ok (a.map g)`, the way the entry points
    that turn a coordinate into an offset or a value are written.  Stated for `Coord` only: this
    `match` and those of the model are the same auxiliary matcher because they are on the same
    type, and the uses below unify through that. -/
theorem _root_.LMV.OkUnless.map_coord {P : Coord → Prop} {r : Except String (Option Coord)}
    (h : OkUnless guard (OptSpec rows P) r) (g : Coord → γ) {Q : γ → Prop}
    (hg : ∀ c, P c → Q (g c)) :
    OkUnless guard (OptSpec rows Q)
      (match (generalizing := false) r with | .error e => .error e | .ok a => .ok (a.map g)) := by
  cases r with
  | error e => exact h
  | ok a => exact ⟨h.1, h.2.map _ hg⟩

theorem OptSpec.ite {a : Option β} (h : rows ≠ 0 → OptSpec rows P a) :
    OptSpec rows P (if rows = 0 then none else a) := by
  split
  · assumption
  · exact h ‹_›

/-- the shape of the vector arg-max kernels: the size guard, the empty matrix, the work -/
theorem _root_.LMV.OkUnless.kernel [Decidable guard] {e : String} {a : Option β}
    (h : ¬ guard → rows ≠ 0 → OptSpec rows P a) :
    OkUnless guard (OptSpec rows P)
      (if guard then .error e else if rows = 0 then .ok none else .ok a) := by
  by_cases hg : guard
  · rw [if_pos hg]; exact hg
  rw [if_neg hg]
  by_cases hr : rows = 0
  · rw [if_pos hr]; exact ⟨hg, hr⟩
  · rw [if_neg hr]; exact ⟨hg, h hg hr⟩

end Shape

/-! ### Trait defaults: the scalar scans -/

def cellsOf (rows C : Nat) : List Coord :=
  (List.range rows).flatMap fun i => (List.range C).map fun j => (i, j)

theorem mem_cellsOf {rows C : Nat} {p : Coord} : p ∈ cellsOf rows C ↔ p.1 < rows ∧ p.2 < C := by
  obtain ⟨r, c⟩ := p
  simp only [cellsOf, List.mem_flatMap, List.mem_map, List.mem_range, Prod.mk.injEq]
  constructor
  · rintro ⟨i, hi, j, hj, rfl, rfl⟩; exact ⟨hi, hj⟩
  · rintro ⟨h1, h2⟩; exact ⟨r, h1, c, h2, rfl, rfl⟩

theorem argmaxGeneric_answer (o : Cmp α) (ht : o.Total) (C rows : Nat) (hC : 0 < C)
    (f : Nat → Nat → α) : OptSpec rows (HoldsMax o rows C f) (argmaxGeneric o C rows f) := by
  unfold argmaxGeneric
  refine OptSpec.ite fun hrows => ⟨hrows, ?_⟩
  -- one fold over the cells; the compare of the source is `score >= best_score`
  obtain ⟨h1, -, h3⟩ := foldl_select o.le ht.total ht.trans (fun b : Best α => b.score)
    (fun x : Coord => ⟨x.1, x.2, f x.1 x.2⟩) (fun b x => genericArgmaxRel.eval o (f x.1 x.2) b.score)
    (fun _ _ h => h) (fun _ _ h => ht.le_of_not_le h)
    (fun b x => genericStep o f x.1 b x.2) (fun _ _ => rfl) (cellsOf rows C) ⟨0, 0, f 0 0⟩
  simp only [cellsOf, List.foldl_flatMap, List.foldl_map] at h1 h3
  simp only [Nat.zero_mod, Nat.zero_div]
  generalize List.foldl _ _ (List.range rows) = b at h1 h3
  obtain ⟨p, hp, rfl⟩ : ∃ p : Coord, p ∈ cellsOf rows C ∧ b = ⟨p.1, p.2, f p.1 p.2⟩ := by
    rcases h1 with e | ⟨x, hx, e⟩
    · exact ⟨(0, 0), mem_cellsOf.2 ⟨Nat.pos_of_ne_zero hrows, hC⟩, e⟩
    · exact ⟨x, hx, e⟩
  exact ⟨(mem_cellsOf.1 hp).1, (mem_cellsOf.1 hp).2,
    fun r c hr hc => h3 (r, c) (mem_cellsOf.2 ⟨hr, hc⟩)⟩

theorem maxGeneric_answer (o : Cmp α) (ht : o.Total) (C rows : Nat) (hC : 0 < C)
    (f : Nat → Nat → α) : OptSpec rows (IsMax o rows C f) (maxGeneric o C rows f) :=
  (argmaxGeneric_answer o ht C rows hC f).map _ fun _ h => h.isMax

theorem mem_thresholdGeneric (o : Cmp α) (C rows : Nat) (f : Nat → Nat → α) (t : α) (p : Coord) :
    p ∈ thresholdGeneric o C rows f t ↔ p.1 < rows ∧ p.2 < C ∧ o.le t (f p.1 p.2) = true := by
  obtain ⟨r, c⟩ := p
  simp only [thresholdGeneric, genericThresholdRel, Rel.eval, List.mem_flatMap, List.mem_map,
    List.mem_filter, List.mem_range, Prod.mk.injEq]
  constructor
  · rintro ⟨i, hi, j, ⟨hj, hle⟩, rfl, rfl⟩; exact ⟨hi, hj, hle⟩
  · rintro ⟨h1, h2, h3⟩; exact ⟨r, h1, c, ⟨h2, h3⟩, rfl, rfl⟩

theorem thresholdGeneric_nodup (o : Cmp α) (C rows : Nat) (f : Nat → Nat → α) (t : α) :
    (thresholdGeneric o C rows f t).Nodup := by
  unfold thresholdGeneric List.Nodup
  rw [List.pairwise_flatMap]
  constructor
  · intro i _
    rw [List.pairwise_map]
    have h := (List.nodup_range (n := C)).sublist (List.filter_sublist (p := fun j => genericThresholdRel.eval o (f i j) t))
    exact List.Pairwise.imp (fun hab heq => hab (by cases heq; rfl)) h
  · exact List.Pairwise.imp
      (fun {a b} hab x hx y hy heq => by
        simp only [List.mem_map] at hx hy
        obtain ⟨_, _, rfl⟩ := hx
        obtain ⟨_, _, rfl⟩ := hy
        cases heq
        exact hab rfl)
      (List.nodup_range (n := rows))

/-! ### Vector arg-max kernels

  A lane-parallel row loop leaves, for every column, the index of a row holding the column maximum
  (`ColMax`, `laneKernel_colMax`); a scalar epilogue then picks the best of these. -/

def ColMax (o : Cmp α) (rows C : Nat) (f : Nat → Nat → α) (x : List Nat) : Prop :=
  ∀ col, col < C → ∃ p, x[col]? = some p ∧ p < rows ∧
    ∀ i, i < rows → o.le (f i col) (f p col) = true

section Epilogue
variable {o : Cmp α} {rows C : Nat} {f : Nat → Nat → α} {x : List Nat}

theorem ColMax.le_of_dom (hx : ColMax o rows C f x) (ht : o.Total) {v : α}
    (hdom : ∀ rc ∈ x.zipIdx, o.le (f rc.1 rc.2) v = true) :
    ∀ r c, r < rows → c < C → o.le (f r c) v = true := by
  intro r c hr hc
  obtain ⟨p, hp1, _, hp3⟩ := hx c hc
  exact ht.trans _ _ _ (hp3 r hr) (hdom (p, c) (List.mk_mem_zipIdx_iff_getElem?.2 hp1))

theorem ColMax.holdsMax (hx : ColMax o rows C f x) (ht : o.Total) (hlen : x.length = C) {p : Coord}
    (hmem : p ∈ x.zipIdx) (hdom : ∀ rc ∈ x.zipIdx, o.le (f rc.1 rc.2) (f p.1 p.2) = true) :
    HoldsMax o rows C f p := by
  have hm := List.mem_zipIdx_iff_getElem?.1 hmem
  have hc : p.2 < C := hlen ▸ (List.getElem?_eq_some_iff.1 hm).1
  obtain ⟨q, hq1, hq2, _⟩ := hx p.2 hc
  rw [hm] at hq1
  cases hq1
  exact ⟨hq2, hc, hx.le_of_dom ht hdom⟩

/-- the epilogue `for (col, row) in x.enumerate() { if take(data[row][col], best_score) {…} }`;
    `hinit`: it is seeded with a cell of the matrix and a score not above that cell (the cell's own
    score, or `-∞`) -/
theorem reduceCols_spec (ht : o.Total) (hlen : x.length = C) (hx : ColMax o rows C f x)
    (take : α → α → Bool)
    (htake1 : ∀ sc best, take sc best = true → o.le best sc = true)
    (htake2 : ∀ sc best, take sc best = false → o.le sc best = true)
    (init : Best α)
    (hinit : init.row < rows ∧ init.col < C ∧ o.le init.score (f init.row init.col) = true) :
    HoldsMax o rows C f ((reduceCols take f x init).row, (reduceCols take f x init).col) := by
  obtain ⟨h1, -, h3⟩ := foldl_select o.le ht.total ht.trans (fun b : Best α => b.score)
    (fun rc : Nat × Nat => ⟨rc.1, rc.2, f rc.1 rc.2⟩) (fun b rc => take (f rc.1 rc.2) b.score)
    (fun _ _ h => htake1 _ _ h) (fun _ _ h => htake2 _ _ h) _ (fun _ _ => rfl) x.zipIdx init
  unfold reduceCols
  generalize List.foldl _ init x.zipIdx = b at h1 h3 ⊢
  rcases h1 with rfl | ⟨rc, hrc, rfl⟩
  · exact ⟨hinit.1, hinit.2.1, fun r c hr hc =>
      ht.trans _ _ _ (hx.le_of_dom ht h3 r c hr hc) hinit.2.2⟩
  · exact hx.holdsMax ht hlen hrc h3

end Epilogue

/-- **The lane-parallel arg-max kernel.**  `n` slots run the lane step down the rows
    (`laneFold_argmax`: `le` a total preorder on what a lane reads, `dec` the value a score register
    stands for), then the index registers go through `stores` into `x`; `π` says which slot lands
    where.  The tables enter through `hπ` and `hslot` alone: the slot whose index lands in `x[col]`
    reads column `col` (through the order embedding `emb`) and takes row 0. -/
theorem laneKernel_colMax {σ ρ : Type} (o : Cmp α) (le : ρ → ρ → Bool)
    (htot : ∀ a b, le a b = true ∨ le b a = true)
    (htrans : ∀ a b c, le a b = true → le b c = true → le a c = true)
    (emb : α → ρ) (hemb : ∀ a b, le (emb a) (emb b) = o.le a b)
    (take : σ → ρ → Bool) (upd : ρ → σ) (idx : Nat → Nat) (dec : σ → ρ)
    (hupd : ∀ r, dec (upd r) = r) (htake : ∀ s r, take s r = le (dec s) r)
    (rd : Nat → Nat → ρ) (init : List (Nat × σ)) (n w : Nat) (stores : List (Nat × Src))
    (rows : Nat) (hrows : 0 < rows) (hidx : ∀ i, i < rows → idx i = i)
    (C : Nat) (f : Nat → Nat → α) (hn : init.length = n)
    (π : List Nat) (hπ : storeAll n n w stores (List.range n) = π) (hC : π.length = C)
    (hslot : ∀ col, col < C → ∃ p0 s0, init[π.getD col n]? = some (p0, s0) ∧
      take s0 (rd 0 (π.getD col n)) = true ∧ ∀ i, rd i (π.getD col n) = emb (f i col)) :
    (storeAll 0 n w stores ((rowsRun (laneStep take upd idx) rd rows init).map (·.1))).length = C ∧
    ColMax o rows C f
      (storeAll 0 n w stores ((rowsRun (laneStep take upd idx) rd rows init).map (·.1))) := by
  rw [storeAll_eq_map 0 n w stores _ (by rw [List.length_map, rowsRun_length, hn]), hπ]
  refine ⟨by rw [List.length_map, hC], fun col hc => ?_⟩
  obtain ⟨p0, s0, hi, h0, hrd⟩ := hslot col hc
  have hs : π[col]? = some (π.getD col n) := by
    rw [List.getD_eq_getElem?_getD, List.getElem?_eq_getElem (hC ▸ hc)]; rfl
  generalize π.getD col n = s at hs hi h0 hrd
  obtain ⟨hlt, hmax⟩ := laneFold_argmax le htot htrans take upd idx dec hupd htake
    (fun i => rd i s) p0 s0 h0 rows hrows hidx
  refine ⟨_, ?_, hlt, fun i hi => ?_⟩
  · simp only [List.getElem?_map, hs, Option.map_some, List.getD_eq_getElem?_getD,
      rowsRun_getElem?, hi, Option.getD_some]
  · have := hmax i hi
    rwa [hrd, hrd, hemb] at this

/-! ### `argmax_f32_avx2` -/

/-- facts about the regenerated tables of `argmax_f32_avx2`, by kernel evaluation: lane `l` of
    register `k` reads column `off_k + l`, starts from row 0 of that column with index 0, and is
    stored at `x[off_k + l]`; the compare is `s <= r`, the epilogue compare `score > best_score` -/
theorem af32_tables :
    af32LoadOffs.length = 4 ∧
    (∀ col, col < 32 → af32LoadOffs.getD (col / 8) 0 + col % 8 = col) ∧
    (∀ col, col < 32 → af32SInit.getD (col / 8) .zero = .row0 (col - col % 8)) ∧
    (∀ col, col < 32 → af32PInit.getD (col / 8) .zero = .zero) ∧
    storeAll 32 32 8 af32Stores (List.range 32) = List.range 32 ∧
    af32AccFirst = true ∧ af32Rel = .le ∧ af32FinalRel = .gt := by decide

/-- `hle : rows ≤ 2^32`: the kernel stores the row index as `i as i32`, `(· % 4294967296)` in the model
    (`hidx` below), so beyond 2^32 rows the stored index is no longer the row.  The Rust has no guard
    for it; the `max_index > u32::MAX` panic does not give it either, `StripedScores` (`Maximum.Striped`)
    not tying `max_index` to the row count — hence `hle` beside `hmi` in `c07_striped_f32`. -/
theorem argmaxF32Avx2_answer (o : Cmp α) (ht : o.Total) (maxIndex rows : Nat)
    (hle : rows ≤ 4294967296) (f : Nat → Nat → α) :
    OkUnless (maxIndex > 4294967295) (OptSpec rows (HoldsMax o rows 32 f))
      (argmaxF32Avx2 o maxIndex rows f) := by
  obtain ⟨hLoadN, hLoad, hSInit, hPInit, hStores, hAccFirst, hRel, hFinalRel⟩ := af32_tables
  unfold argmaxF32Avx2
  refine OkUnless.kernel fun _ hrows => ?_
  have hrows' : 0 < rows := Nat.pos_of_ne_zero hrows
  have htake : ∀ s r, af32Take o s r = o.le s r := fun s r => by simp [af32Take, hAccFirst, hRel, Rel.eval]
  -- float lanes: registers hold the values themselves, slot `s` lands in `x[s]`
  have ⟨hlen, hx⟩ := laneKernel_colMax (o := o) (f := f) (rows := rows) (C := 32)
    (le := o.le) (htot := ht.total) (htrans := ht.trans) (emb := id) (hemb := fun _ _ => rfl)
    (take := af32Take o) (upd := id) (dec := id) (hupd := fun _ => rfl) (htake := htake)
    (idx := (· % 4294967296)) (hidx := fun i hi => Nat.mod_eq_of_lt (Nat.lt_of_lt_of_le hi hle))
    (hrows := hrows') (rd := af32Read f) (init := af32Init o f) (n := 32) (w := 8)
    (stores := af32Stores)
    (hn := by simp only [af32Init, List.length_map, List.length_range, hLoadN])
    (π := List.range 32) (hπ := hStores) (hC := List.length_range)
    (hslot := fun col hc => by
      simp only [List.getD_eq_getElem?_getD, List.getElem?_range hc, Option.getD_some]
      refine ⟨0, f 0 col, ?_, ?_, fun i => ?_⟩
      · rw [af32Init, hLoadN, List.getElem?_map, List.getElem?_range hc, Option.map_some,
          hSInit col hc, hPInit col hc, initLane, Nat.sub_add_cancel (Nat.mod_le col 8)]
        rfl
      · simp only [htake, af32Read, hLoad col hc]; exact ht.refl _
      · simp only [af32Read, hLoad col hc, id])
  exact ⟨hrows, reduceCols_spec ht hlen hx _
    (fun _ _ hc => ht.le_of_lt (by simpa [hFinalRel, Rel.eval] using hc))
    (fun _ _ hc => ht.le_of_not_lt (by simpa [hFinalRel, Rel.eval] using hc)) _
    ⟨hrows', show 0 < 32 by decide, ht.refl _⟩⟩

/-- whatever the comparisons do (NaN included): the only panic is the explicit size guard, and the
    answer is `None` exactly on the empty matrix -/
theorem argmaxF32Avx2_shape (o : Cmp α) (maxIndex rows : Nat) (f : Nat → Nat → α) :
    OkUnless (maxIndex > 4294967295) (OptSpec rows fun _ => True)
      (argmaxF32Avx2 o maxIndex rows f) := by
  unfold argmaxF32Avx2
  exact OkUnless.kernel fun _ h => ⟨h, trivial⟩

theorem argmaxF32Avx2_panic_iff (o : Cmp α) (maxIndex rows : Nat) (f : Nat → Nat → α) :
    (∃ e, argmaxF32Avx2 o maxIndex rows f = .error e) ↔ maxIndex > 4294967295 :=
  (argmaxF32Avx2_shape o maxIndex rows f).error_iff

/-! ### `argmax_sse2` -/

/-- facts about the regenerated tables of `argmax_sse2`, by kernel evaluation: as for
    `argmax_f32_avx2`, on 4 registers of 4 lanes per 16-column block; the lanes start from the
    broadcast of `best_score`; the epilogue compare is `score >= best_score`.  `argmaxSse2` writes
    the initial `best_score` as `o.negInf`: the last conjunct is there so that another initialiser
    in the source stops the build. -/
theorem sse2_tables :
    sse2Lanes = 16 ∧ sse2LoadOffs.length = 4 ∧
    (∀ s, s < 16 → sse2LoadOffs.getD (s / 4) 0 + s % 4 = s) ∧
    (∀ s, s < 16 → sse2SInit.getD (s / 4) .zero = .best) ∧
    (∀ s, s < 16 → sse2PInit.getD (s / 4) .zero = .zero) ∧
    storeAll 16 16 4 sse2Stores (List.range 16) = List.range 16 ∧
    sse2AccFirst = true ∧ sse2Rel = .le ∧ sse2FinalRel = .ge ∧ sse2BestInitNegInf = true := by
  decide

theorem sse2Block_spec (o : Cmp α) (ht : o.Total) (hbot : ∀ v, o.le o.negInf v = true)
    (rows : Nat) (hrows : 0 < rows) (hle : rows ≤ 4294967296) (f : Nat → Nat → α) (offset : Nat) :
    (sse2Block o rows f offset).length = 16 ∧
    ColMax o rows 16 (fun i c => f i (offset + c)) (sse2Block o rows f offset) := by
  obtain ⟨hLanes, hLoadN, hLoad, hSInit, hPInit, hStores, hAccFirst, hRel, -, -⟩ := sse2_tables
  have htake : ∀ s r, sse2Take o s r = o.le s r := fun s r => by simp [sse2Take, hAccFirst, hRel, Rel.eval]
  unfold sse2Block
  rw [hLanes]
  -- float lanes as in `argmax_f32_avx2`, on the 16 columns from `offset`
  exact laneKernel_colMax (o := o) (f := fun i c => f i (offset + c)) (rows := rows) (C := 16)
    (le := o.le) (htot := ht.total) (htrans := ht.trans) (emb := id) (hemb := fun _ _ => rfl)
    (take := sse2Take o) (upd := id) (dec := id) (hupd := fun _ => rfl) (htake := htake)
    (idx := (· % 4294967296)) (hidx := fun i hi => Nat.mod_eq_of_lt (Nat.lt_of_lt_of_le hi hle))
    (hrows := hrows) (rd := sse2Read f offset) (init := sse2Init o f) (n := 16) (w := 4)
    (stores := sse2Stores)
    (hn := by simp only [sse2Init, List.length_map, List.length_range, hLoadN])
    (π := List.range 16) (hπ := hStores) (hC := List.length_range)
    (hslot := fun k hk => by
      simp only [List.getD_eq_getElem?_getD, List.getElem?_range hk, Option.getD_some]
      refine ⟨0, o.negInf, ?_, by rw [htake]; exact hbot _, fun i => ?_⟩
      · rw [sse2Init, hLoadN, List.getElem?_map, List.getElem?_range hk, Option.map_some,
          hSInit k hk, hPInit k hk]
        rfl
      · simp only [sse2Read, Nat.add_assoc, hLoad k hk, id])

/-- the block loop of `argmax_sse2`: `q` blocks of `w` columns, each leaving the rows of its column
    maxima (`B off`), written side by side into `x` give the rows of the column maxima of all `q·w`
    columns; by induction on the blocks written so far -/
theorem colMax_blocks (o : Cmp α) (rows : Nat) (f : Nat → Nat → α) (w q : Nat) (B : Nat → List Nat)
    (hB : ∀ off, (B off).length = w ∧ ColMax o rows w (fun i c => f i (off + c)) (B off)) :
    ∀ n, n ≤ q →
      ((List.range n).foldl (fun out blk => writeAt out (blk * w) (B (blk * w)))
        (List.replicate (w * q) 0)).length = w * q ∧
      ColMax o rows (n * w) f ((List.range n).foldl
        (fun out blk => writeAt out (blk * w) (B (blk * w))) (List.replicate (w * q) 0)) := by
  intro n
  induction n with
  | zero =>
    intro _
    exact ⟨by simp, fun col h => absurd (Nat.zero_mul w ▸ h) (Nat.not_lt_zero col)⟩
  | succ n ih =>
    intro hn
    obtain ⟨h1, h2⟩ := ih (Nat.le_of_succ_le hn)
    rw [List.range_succ, List.foldl_append]
    generalize (List.range n).foldl _ _ = out at h1 h2
    simp only [List.foldl_cons, List.foldl_nil]
    obtain ⟨hBl, hBm⟩ := hB (n * w)
    have hq : n * w + w ≤ w * q := Nat.mul_comm q w ▸ pos_add_le hn (Nat.le_refl w)
    have hfit : n * w + (B (n * w)).length ≤ out.length := by rw [hBl, h1]; exact hq
    refine ⟨by rw [length_writeAt _ _ _ hfit, h1], fun col hcol => ?_⟩
    rw [Nat.succ_mul] at hcol
    rw [getElem?_writeAt _ _ _ hfit, hBl]
    by_cases hc : col < n * w
    · rw [if_pos hc]
      exact h2 col hc
    · have hle := Nat.le_of_not_lt hc
      obtain ⟨p, hp1, hp2, hp3⟩ := hBm (col - n * w) (Nat.sub_lt_left_of_lt_add hle hcol)
      simp only [Nat.add_sub_cancel' hle] at hp3
      rw [if_neg hc, if_pos hcol]
      exact ⟨p, hp1, hp2, hp3⟩

theorem argmaxSse2_answer (o : Cmp α) (ht : o.Total) (hbot : ∀ v, o.le o.negInf v = true)
    (q : Nat) (hq : 0 < q) (maxIndex rows : Nat) (hle : rows ≤ 4294967296) (f : Nat → Nat → α) :
    OkUnless (maxIndex > 4294967295) (OptSpec rows (HoldsMax o rows (16 * q) f))
      (argmaxSse2 o (16 * q) maxIndex rows f) := by
  obtain ⟨hLanes, -, -, -, -, -, -, -, hFinalRel, -⟩ := sse2_tables
  unfold argmaxSse2
  refine OkUnless.kernel fun _ hrows => ?_
  have hrows' : 0 < rows := Nat.pos_of_ne_zero hrows
  obtain ⟨hlen, hx⟩ := colMax_blocks o rows f 16 q (sse2Block o rows f)
    (sse2Block_spec o ht hbot rows hrows' hle f) q (Nat.le_refl _)
  simp only [hLanes, Nat.mul_div_cancel_left q (show 0 < 16 by decide)]
  rw [Nat.mul_comm q 16] at hx
  exact ⟨hrows, reduceCols_spec ht hlen hx _
    (fun _ _ hc => by simpa [hFinalRel, Rel.eval] using hc)
    (fun _ _ hc => ht.le_of_not_le (by simpa [hFinalRel, Rel.eval] using hc)) _
    ⟨hrows', Nat.mul_pos (by decide) hq, hbot _⟩⟩

theorem argmaxSse2_shape (o : Cmp α) (C maxIndex rows : Nat) (f : Nat → Nat → α) :
    OkUnless (maxIndex > 4294967295) (OptSpec rows fun _ => True)
      (argmaxSse2 o C maxIndex rows f) := by
  unfold argmaxSse2
  exact OkUnless.kernel fun _ h => ⟨h, trivial⟩

theorem argmaxSse2_panic_iff (o : Cmp α) (C maxIndex rows : Nat) (f : Nat → Nat → α) :
    (∃ e, argmaxSse2 o C maxIndex rows f = .error e) ↔ maxIndex > 4294967295 :=
  (argmaxSse2_shape o C maxIndex rows f).error_iff

/-! ### `max_f32_avx2` and `max_u8_avx2` -/

/-- Slot `s` of a max kernel (a lane of VALUES; `ColMax` above is about the index lanes of the
    arg-max kernels) ends as an attained upper bound of the column `g` it reads.  `ha`: its start
    value is the first cell whenever it is not below it (the first cell itself in `max_f32_avx2`;
    the least element of a linear order in `max_u8_avx2`). -/
theorem rowsRun_laneMax (o : Cmp α) (ht : o.Total) (step : Nat → α → α → α)
    (hop : ∀ i, MaxLike o (step i)) (rd : Nat → Nat → α) (rows : Nat) (hrows : 0 < rows)
    (init : List α) (s : Nat) (a : α) (hs : init[s]? = some a) (g : Nat → α)
    (hrd : ∀ i, rd i s = g i) (ha : o.le (g 0) a = true → a = g 0) (z : α) :
    (∃ i, i < rows ∧ g i = (rowsRun step rd rows init).getD s z) ∧
      ∀ i, i < rows → o.le (g i) ((rowsRun step rd rows init).getD s z) = true := by
  obtain ⟨hmem, -, hdom⟩ := laneFold_maxLike o ht step hop (fun i => rd i s) rows a
  simp only [List.getD_eq_getElem?_getD, rowsRun_getElem?, hs, Option.map_some, Option.getD_some]
  simp only [hrd] at hmem hdom ⊢
  refine ⟨?_, hdom⟩
  rcases hmem with e | ⟨i, hi, e⟩
  · exact ⟨0, hrows, (e ▸ ha (e ▸ hdom 0 hrows)).symm⟩
  · exact ⟨i, hi, e.symm⟩

theorem isMax_of_lanes {o : Cmp α} (ht : o.Total) {rows C : Nat} {f : Nat → Nat → α}
    (lane : Nat → α)
    (hV : ∀ s, s < C → (∃ i, i < rows ∧ f i s = lane s) ∧
      ∀ i, i < rows → o.le (f i s) (lane s) = true)
    {v : α} (hmem : ∃ s, s < C ∧ lane s = v) (hdom : ∀ s, s < C → o.le (lane s) v = true) :
    IsMax o rows C f v := by
  obtain ⟨s, hs, rfl⟩ := hmem
  obtain ⟨i, hi, e⟩ := (hV s hs).1
  exact ⟨⟨i, s, hi, hs, e⟩, fun r c hr hc => ht.trans _ _ _ ((hV c hc).2 r hr) (hdom c hc)⟩

/-- facts about the regenerated tables of `max_f32_avx2`, by kernel evaluation: lane `l` of register
    `k` reads column `off_k + l` and starts from row 0 of that column; the final tree is
    `max(max(m0, m1), max(m2, m3))` -/
theorem mf32_tables :
    mf32LoadOffs.length = 4 ∧
    (∀ s, s < 32 → mf32LoadOffs.getD (s / 8) 0 + s % 8 = s) ∧
    (∀ s, s < 32 → mf32Init.getD (s / 8) .zero = .row0 (s - s % 8)) ∧
    mf32Tree = ((0, 1), (2, 3)) := by decide

theorem maxF32Avx2_answer (o : Cmp α) (ht : o.Total) (rows : Nat) (f : Nat → Nat → α) :
    OptSpec rows (IsMax o rows 32 f) (maxF32Avx2 o rows f) := by
  obtain ⟨hLoadN, hLoad, hInit, hTree⟩ := mf32_tables
  unfold maxF32Avx2
  refine OptSpec.ite fun hrows => ?_
  simp only [hTree]
  -- every lane holds the maximum of its column
  have hV := fun s (hs : s < 32) => rowsRun_laneMax o ht (mf32Step o)
    (fun _ => (maxps_maxLike o ht).accFirst _) (mf32Read f) rows
    (Nat.pos_of_ne_zero hrows) (mf32InitLanes o f) s (f 0 s) (by
      simp only [mf32InitLanes, hLoadN, List.getElem?_map, List.getElem?_range hs, Option.map_some,
        hInit s hs, initLane, Nat.sub_add_cancel (Nat.mod_le s 8)])
    (fun i => f i s) (fun i => by simp only [mf32Read, hLoad s hs]) (fun _ => rfl) o.zero
  generalize rowsRun (mf32Step o) (mf32Read f) rows (mf32InitLanes o f) = st at hV
  cases h : reduce1 (fmax o) _ with
  | none => rw [reduce1_eq_none, List.map_eq_nil_iff] at h; cases h
  | some v =>
    obtain ⟨hmem, hdom⟩ := reduce1_maxLike o ht _ (fmax_maxLike o ht) _ v h
    have mp := maxps_maxLike o ht
    refine ⟨hrows, isMax_of_lanes ht (fun s => st.getD s o.zero) hV ?_ fun c hc => ?_⟩
    · obtain ⟨l, hl, rfl⟩ := List.mem_map.1 hmem
      have hl8 : l < 8 := List.mem_range.1 hl
      have hE := @MaxLike.elim _ o _ mp fun v => ∃ s, s < 32 ∧ st.getD s o.zero = v
      have hA : ∀ k, k < 4 → ∃ s, s < 32 ∧ st.getD s o.zero = st.getD (8 * k + l) o.zero :=
        fun k hk => ⟨8 * k + l, Nat.mul_comm k 8 ▸ pos_lt hk hl8, rfl⟩
      exact hE (hE (hA 0 (by decide)) (hA 1 (by decide))) (hE (hA 2 (by decide)) (hA 3 (by decide)))
    · refine ht.trans _ _ _ ?_
        (hdom _ (List.mem_map.2 ⟨c % 8, List.mem_range.2 (Nat.mod_lt _ (by decide)), rfl⟩))
      -- the lane of column `c` is operand `c / 8` of the tree of lane `c % 8`
      have hk : c / 8 < 4 := Nat.div_lt_of_lt_mul hc
      rw [show st.getD c o.zero = st.getD (8 * (c / 8) + c % 8) o.zero by rw [Nat.div_add_mod]]
      generalize c / 8 = k at hk
      obtain _ | _ | _ | _ | k := k
      · exact mp.le_left ht _ (mp.le_left ht _ (ht.refl _))
      · exact mp.le_left ht _ (mp.le_right ht _ (ht.refl _))
      · exact mp.le_right ht _ (mp.le_left ht _ (ht.refl _))
      · exact mp.le_right ht _ (mp.le_right ht _ (ht.refl _))
      · exact absurd hk (Nat.not_lt.2 (Nat.le_add_left 4 k))

/-- `max_u8_avx2` (accumulator seeded with zero, the least byte) over a linear order whose least
    element is `zero` -/
theorem maxU8Avx2_answer (o : Cmp α) (ht : o.Total)
    (hanti : ∀ a b, o.le a b = true → o.le b a = true → a = b)
    (hzero : ∀ v, o.le o.zero v = true) (rows : Nat) (f : Nat → Nat → α) :
    OptSpec rows (IsMax o rows 32 f) (maxU8Avx2 o rows f) := by
  have hInit : mu8Init = .zero := rfl
  unfold maxU8Avx2 iterMax
  refine OptSpec.ite fun hrows => ?_
  have hV := fun s (hs : s < 32) => rowsRun_laneMax o ht (mu8Step o)
    (fun _ => (maxepu8_maxLike o ht).accFirst _) (fun i s => f i s)
    rows (Nat.pos_of_ne_zero hrows) ((List.range 32).map fun s => initLane o f mu8Init s) s o.zero
    (by rw [List.getElem?_map, List.getElem?_range hs, hInit]; rfl)
    (fun i => f i s) (fun _ => rfl) (fun h => hanti _ _ (hzero _) h) o.zero
  have hlen := rowsRun_length (mu8Step o) (fun i s => f i s) rows
    ((List.range 32).map fun s => initLane o f mu8Init s)
  rw [List.length_map, List.length_range] at hlen
  generalize rowsRun (mu8Step o) (fun i s => f i s) rows _ = st at hV hlen ⊢
  have hget : ∀ s, s < 32 → st[s]? = some (st.getD s o.zero) := fun s hs => by
    rw [List.getD_eq_getElem?_getD, List.getElem?_eq_getElem (hlen ▸ hs)]; rfl
  cases h : reduce1 _ st with
  | none => rw [reduce1_eq_none] at h; rw [h] at hlen; cases hlen
  | some v =>
    obtain ⟨hmem, hdom⟩ := reduce1_maxLike o ht _ (iterMaxOp_maxLike o ht) _ v h
    refine ⟨hrows, isMax_of_lanes ht (fun s => st.getD s o.zero) hV ?_
      fun s hs => hdom _ (List.mem_iff_getElem?.2 ⟨s, hget s hs⟩)⟩
    obtain ⟨s, hs⟩ := List.mem_iff_getElem?.1 hmem
    have hs32 : s < 32 := hlen ▸ (List.getElem?_eq_some_iff.1 hs).1
    exact ⟨s, hs32, Option.some.inj ((hget s hs32).symm.trans hs)⟩

/-! ### The comparisons of `u8` -/

/-- `<=`, `<` of `u8`, and `T::default() = 0` (the start value of `max_u8_avx2`, the least byte) -/
def IsU8 (o : Cmp UInt8) : Prop :=
  (∀ a b, o.le a b = decide (a ≤ b)) ∧ (∀ a b, o.lt a b = decide (a < b)) ∧ o.zero = 0

def u8Cmp : Cmp UInt8 := ⟨fun a b => decide (a ≤ b), fun a b => decide (a < b), 0, 0⟩

theorem u8Cmp_isU8 : IsU8 u8Cmp := ⟨fun _ _ => rfl, fun _ _ => rfl, rfl⟩

theorem IsU8.total {o : Cmp UInt8} (h : IsU8 o) : o.Total :=
  .of_rel (· ≤ ·) UInt8.le_total (fun _ _ _ => UInt8.le_trans)
    (fun a b => by rw [h.1, decide_eq_true_eq])
    (fun a b => by rw [h.2.1, decide_eq_true_eq, UInt8.not_le])

theorem IsU8.anti {o : Cmp UInt8} (h : IsU8 o) :
    ∀ a b, o.le a b = true → o.le b a = true → a = b := by
  intro a b
  rw [h.1, h.1, decide_eq_true_eq, decide_eq_true_eq]
  exact UInt8.le_antisymm

theorem IsU8.zero_le {o : Cmp UInt8} (h : IsU8 o) : ∀ v, o.le o.zero v = true := by
  intro v
  rw [h.1, h.2.2]
  simp [UInt8.le_iff_toNat_le]

/-! ### `argmax_u8_avx2` -/

/-- the byte column a 16-bit lane of `_mm256_unpack{lo,hi}_epi8(r, zero)` carries -/
def u8Col (hi : Bool) (j : Nat) : Nat := 16 * (2 * j / 16) + (if hi then 8 else 0) + 2 * j % 16 / 2

/-- unpacking against zero zero-extends: the lane holds the byte of column `u8Col hi j` -/
theorem lane16_zero (hi : Bool) (a : Nat → Nat) (j : Nat) :
    lane16 hi a (fun _ => 0) j = a (u8Col hi j) := by
  simp [lane16, unpackEpi8Src, u8Col]

/-- facts about the regenerated tables of `argmax_u8_avx2`, by kernel evaluation: the 16-bit lanes
    start at -1 with index 0, compare `r > s`, store `r - 1`; and — the lane-order fact — after the
    two `permute2x128` stores, `x[col]` is the index lane whose score lane was unpacked from byte
    column `col`, for every `col < 32` -/
theorem au8_tables :
    au8UnpackHi.length = 2 ∧
    (∀ s, s < 32 → au8SInit.getD (s / 16) .zero = .const (-1)) ∧
    (∀ s, s < 32 → au8PInit.getD (s / 16) .zero = .zero) ∧
    au8Ones = 1 ∧ au8AccFirst = false ∧ au8Rel = .gt ∧
    (storeAll 32 32 16 au8Stores (List.range 32)).length = 32 ∧
    (∀ col, col < 32 →
      (storeAll 32 32 16 au8Stores (List.range 32)).getD col 32 < 32 ∧
      u8Col (au8UnpackHi.getD ((storeAll 32 32 16 au8Stores (List.range 32)).getD col 32 / 16) false)
        ((storeAll 32 32 16 au8Stores (List.range 32)).getD col 32 % 16) = col) := by
  decide

theorem argmaxU8Avx2_answer (o : Cmp UInt8) (ho : IsU8 o) (rows : Nat) (f : Nat → Nat → UInt8) :
    OkUnless (rows > 65536) (OptSpec rows (HoldsMax o rows 32 f)) (argmaxU8Avx2 o rows f) := by
  obtain ⟨hUnpackN, hSInit, hPInit, hOnes, hAccFirst, hRel, hStoresN, hSlot⟩ := au8_tables
  have ht := ho.total
  unfold argmaxU8Avx2
  refine OkUnless.kernel fun hbig hrows => ?_
  -- 16-bit lanes: bytes zero-extended to integers; the score register holds `value - 1`; the
  -- slot that lands in `x[col]` is read off the stores (`hSlot`)
  have ⟨hlen, hx⟩ := laneKernel_colMax (o := o) (f := f) (rows := rows) (C := 32)
    (le := fun a b : Int => decide (a ≤ b))
    (htot := fun a b => (Int.le_total a b).imp decide_eq_true decide_eq_true)
    (htrans := fun a b c h1 h2 =>
      decide_eq_true (Int.le_trans (of_decide_eq_true h1) (of_decide_eq_true h2)))
    (emb := fun a => Int.ofNat a.toNat)
    (hemb := fun a b => by rw [ho.1]; simp [UInt8.le_iff_toNat_le])
    (take := au8Take) (upd := (· - au8Ones)) (dec := (· + 1)) (hupd := fun r => by simp [hOnes])
    (htake := fun s r => by
      simp only [au8Take, hAccFirst, hRel, Rel.evalInt, Bool.false_eq_true, if_false]
      exact decide_eq_decide.2 Int.lt_iff_add_one_le)
    (idx := (· % 65536))
    (hidx := fun i hi => Nat.mod_eq_of_lt (Nat.lt_of_lt_of_le hi (Nat.le_of_not_lt hbig)))
    (hrows := Nat.pos_of_ne_zero hrows)
    (rd := au8Read f) (init := au8Init) (n := 32) (w := 16) (stores := au8Stores)
    (hn := by simp only [au8Init, List.length_map, List.length_range, hUnpackN])
    (π := _) (hπ := rfl) (hC := hStoresN)
    (hslot := fun col hc => by
      obtain ⟨hs, hcol⟩ := hSlot col hc
      generalize (storeAll 32 32 16 au8Stores (List.range 32)).getD col 32 = s at hs hcol ⊢
      refine ⟨0, -1, ?_, ?_, fun i => ?_⟩
      · rw [au8Init, hUnpackN, List.getElem?_map, List.getElem?_range hs, Option.map_some,
          hSInit s hs, hPInit s hs]
        rfl
      · simp only [au8Take, hAccFirst, hRel, Rel.evalInt, Bool.false_eq_true, if_false, decide_eq_true_eq,
          au8Read]
        exact Int.lt_of_lt_of_le (by decide) (Int.natCast_nonneg _)
      · simp only [au8Read, lane16_zero, hcol])
  cases h : maxByKeyLast o.le _ _ with
  | none => exact absurd h (maxByKeyLast_zipIdx_ne_none _ _
      (Nat.lt_of_lt_of_eq (Nat.zero_lt_succ 31) hlen.symm))
  | some p =>
    obtain ⟨hmem, hdom⟩ := maxByKeyLast_spec o ht _ _ p h
    exact ⟨hrows, hx.holdsMax ht hlen hmem hdom⟩

/-- whatever the comparisons do: the only panic is the explicit bound on the row count (16-bit
    index lanes), and the answer is `None` exactly on the empty matrix -/
theorem argmaxU8Avx2_shape (o : Cmp UInt8) (rows : Nat) (f : Nat → Nat → UInt8) :
    OkUnless (rows > 65536) (OptSpec rows fun _ => True) (argmaxU8Avx2 o rows f) := by
  obtain ⟨hUnpackN, -, -, -, -, -, hStoresN, -⟩ := au8_tables
  unfold argmaxU8Avx2
  refine OkUnless.kernel fun _ hrows => ?_
  -- the stores fill all 32 entries of `x`
  have hlen : (storeAll 0 32 16 au8Stores
      ((rowsRun (laneStep au8Take (· - au8Ones) (· % 65536)) (au8Read f) rows au8Init).map
        (·.1))).length = 32 := by
    rw [storeAll_eq_map 0 32 16 au8Stores _ (by
      rw [List.length_map, rowsRun_length]
      simp only [au8Init, List.length_map, List.length_range, hUnpackN]), List.length_map, hStoresN]
  cases h : maxByKeyLast o.le _ _ with
  | none => exact absurd h (maxByKeyLast_zipIdx_ne_none _ _
      (Nat.lt_of_lt_of_eq (Nat.zero_lt_succ 31) hlen.symm))
  | some p => exact ⟨hrows, trivial⟩

theorem argmaxU8Avx2_panic_iff (o : Cmp UInt8) (rows : Nat) (f : Nat → Nat → UInt8) :
    (∃ e, argmaxU8Avx2 o rows f = .error e) ↔ rows > 65536 :=
  (argmaxU8Avx2_shape o rows f).error_iff

/-! ### Pipelines and dispatcher arms: every backend is admissible and agrees with the generic one -/

/-- the column counts a backend is instantiated with (`PositiveLength`, `MultipleOf<U16>`, `U32`) -/
def Supported : Backend → Nat → Prop
  | .generic, C => 0 < C
  | .sse2, C => ∃ q, 0 < q ∧ C = 16 * q
  | .avx2, C => C = 32

theorem Supported.pos {b : Backend} {C : Nat} (h : Supported b C) : 0 < C := by
  cases b with
  | generic => exact h
  | sse2 => obtain ⟨q, hq, rfl⟩ := h; exact Nat.mul_pos (by decide) hq
  | avx2 => cases h; decide

def MaxAgree (o : Cmp α) (a b : Option α) : Prop :=
  (a = none ∧ b = none) ∨ ∃ v w, a = some v ∧ b = some w ∧ o.le v w = true ∧ o.le w v = true

theorem OptSpec.agree {o : Cmp α} {rows C : Nat} {f : Nat → Nat → α} {a b : Option α}
    (ha : OptSpec rows (IsMax o rows C f) a) (hb : OptSpec rows (IsMax o rows C f) b) :
    MaxAgree o a b := by
  cases a with
  | none =>
    cases b with
    | none => exact Or.inl ⟨rfl, rfl⟩
    | some w => exact absurd ha hb.1
  | some v =>
    cases b with
    | none => exact absurd hb ha.1
    | some w => exact Or.inr ⟨v, w, rfl, rfl, ha.2.equiv hb.2⟩

theorem MaxAgree.eq {o : Cmp α} (hanti : ∀ a b, o.le a b = true → o.le b a = true → a = b)
    {a b : Option α} (h : MaxAgree o a b) : a = b := by
  rcases h with ⟨rfl, rfl⟩ | ⟨v, w, rfl, rfl, h1, h2⟩
  · rfl
  · rw [hanti v w h1 h2]

/-- only the vector kernels have a size guard -/
theorem pipeArgmaxF32_answer (o : Cmp α) (ht : o.Total) (hbot : ∀ v, o.le o.negInf v = true)
    (b : Backend) (C : Nat) (hsup : Supported b C) (maxIndex rows : Nat) (hle : rows ≤ 4294967296)
    (f : Nat → Nat → α) :
    OkUnless (b ≠ .generic ∧ maxIndex > 4294967295) (OptSpec rows (HoldsMax o rows C f))
      (pipeArgmaxF32 o b C maxIndex rows f) := by
  cases b with
  | generic => exact .ok (fun h => h.1 rfl) (argmaxGeneric_answer o ht C rows hsup f)
  | sse2 =>
    obtain ⟨q, hq, rfl⟩ := hsup
    exact (argmaxSse2_answer o ht hbot q hq maxIndex rows hle f).imp
      ⟨fun h => ⟨nofun, h⟩, And.right⟩ fun _ h => h
  | avx2 =>
    cases hsup
    exact (argmaxF32Avx2_answer o ht maxIndex rows hle f).imp
      ⟨fun h => ⟨nofun, h⟩, And.right⟩ fun _ h => h

theorem pipeArgmaxF32_spec (o : Cmp α) (ht : o.Total) (hbot : ∀ v, o.le o.negInf v = true)
    (b : Backend) (C : Nat) (hsup : Supported b C) (maxIndex rows : Nat) (hle : rows ≤ 4294967296)
    (f : Nat → Nat → α) (p : Coord) (h : pipeArgmaxF32 o b C maxIndex rows f = .ok (some p)) :
    HoldsMax o rows C f p :=
  ((pipeArgmaxF32_answer o ht hbot b C hsup maxIndex rows hle f).of_ok h).of_some rfl

/-- No order hypothesis here, so this is not a projection of `pipeArgmaxF32_answer` but of the
    `_shape`s of the three arms. -/
theorem pipeArgmaxF32_none_iff (o : Cmp α) (b : Backend) (C maxIndex rows : Nat)
    (hmi : maxIndex ≤ 4294967295) (f : Nat → Nat → α) :
    pipeArgmaxF32 o b C maxIndex rows f = .ok none ↔ rows = 0 := by
  cases b with
  | generic =>
    have h : OptSpec rows (fun _ => True) (argmaxGeneric o C rows f) :=
      OptSpec.ite fun h => ⟨h, trivial⟩
    exact (OkUnless.ok (guard := False) id h).ok_none_iff id
  | sse2 => exact (argmaxSse2_shape o C maxIndex rows f).ok_none_iff (Nat.not_lt.2 hmi)
  | avx2 => exact (argmaxF32Avx2_shape o maxIndex rows f).ok_none_iff (Nat.not_lt.2 hmi)

/-- the SSE2 pipeline has no `max` of its own and inherits the guard of its `argmax` -/
theorem pipeMaxF32_answer (o : Cmp α) (ht : o.Total) (hbot : ∀ v, o.le o.negInf v = true)
    (b : Backend) (C : Nat) (hsup : Supported b C) (maxIndex rows : Nat) (hle : rows ≤ 4294967296)
    (f : Nat → Nat → α) :
    OkUnless (b = .sse2 ∧ maxIndex > 4294967295) (OptSpec rows (IsMax o rows C f))
      (pipeMaxF32 o b C maxIndex rows f) := by
  cases b with
  | generic => exact .ok (by simp) (maxGeneric_answer o ht C rows hsup f)
  | sse2 =>
    obtain ⟨q, hq, rfl⟩ := hsup
    exact ((argmaxSse2_answer o ht hbot q hq maxIndex rows hle f).imp
      ⟨fun h => ⟨rfl, h⟩, And.right⟩ fun _ h => h).map_coord _ fun _ h => h.isMax
  | avx2 =>
    cases hsup
    exact .ok (by simp) (maxF32Avx2_answer o ht rows f)

theorem pipeArgmaxU8_answer (o : Cmp UInt8) (ho : IsU8 o) (b : Backend) (C : Nat)
    (hsup : Supported b C) (rows : Nat) (f : Nat → Nat → UInt8) :
    OkUnless (b = .avx2 ∧ rows > 65536) (OptSpec rows (HoldsMax o rows C f))
      (pipeArgmaxU8 o b C rows f) := by
  cases b with
  | generic => exact .ok (by simp) (argmaxGeneric_answer o ho.total C rows hsup f)
  | sse2 => exact .ok (by simp) (argmaxGeneric_answer o ho.total C rows hsup.pos f)
  | avx2 =>
    cases hsup
    exact (argmaxU8Avx2_answer o ho rows f).imp ⟨fun h => ⟨rfl, h⟩, And.right⟩ fun _ h => h

theorem pipeArgmaxU8_spec (o : Cmp UInt8) (ho : IsU8 o) (b : Backend) (C : Nat)
    (hsup : Supported b C) (rows : Nat) (f : Nat → Nat → UInt8) (p : Coord)
    (h : pipeArgmaxU8 o b C rows f = .ok (some p)) : HoldsMax o rows C f p :=
  ((pipeArgmaxU8_answer o ho b C hsup rows f).of_ok h).of_some rfl

theorem pipeMaxU8_answer (o : Cmp UInt8) (ho : IsU8 o) (b : Backend) (C : Nat)
    (hsup : Supported b C) (rows : Nat) (f : Nat → Nat → UInt8) :
    OptSpec rows (IsMax o rows C f) (pipeMaxU8 o b C rows f) := by
  cases b with
  | generic => exact maxGeneric_answer o ho.total C rows hsup f
  | sse2 => exact maxGeneric_answer o ho.total C rows hsup.pos f
  | avx2 =>
    cases hsup
    exact maxU8Avx2_answer o ho.total ho.anti ho.zero_le rows f

theorem pipeMaxF32_agrees (o : Cmp α) (ht : o.Total) (hbot : ∀ v, o.le o.negInf v = true)
    (b : Backend) (C : Nat) (hsup : Supported b C) (maxIndex rows : Nat)
    (hmi : maxIndex ≤ 4294967295) (hle : rows ≤ 4294967296) (f : Nat → Nat → α) (a : Option α)
    (h : pipeMaxF32 o b C maxIndex rows f = .ok a) : MaxAgree o a (maxGeneric o C rows f) :=
  ((pipeMaxF32_answer o ht hbot b C hsup maxIndex rows hle f).of_ok h).agree
    (maxGeneric_answer o ht C rows hsup.pos f)

theorem pipeMaxU8_agrees (o : Cmp UInt8) (ho : IsU8 o) (b : Backend) (C : Nat)
    (hsup : Supported b C) (rows : Nat) (f : Nat → Nat → UInt8) :
    pipeMaxU8 o b C rows f = maxGeneric o C rows f :=
  ((pipeMaxU8_answer o ho b C hsup rows f).agree
    (maxGeneric_answer o ho.total C rows hsup.pos f)).eq ho.anti

/-! The dispatcher arms: which kernel an arm calls is read off the regenerated arm tables by
    evaluation (`cases arm`, then the `exact` unfolds `kernelOf`). -/

theorem Supported.u32 (b : Backend) : Supported b 32 := by
  cases b with
  | generic => exact (by decide : 0 < 32)
  | sse2 => exact ⟨2, by decide, rfl⟩
  | avx2 => rfl

theorem dispArgmaxF32_answer (o : Cmp α) (ht : o.Total) (hbot : ∀ v, o.le o.negInf v = true)
    (arm : Backend) (maxIndex rows : Nat) (hle : rows ≤ 4294967296) (f : Nat → Nat → α) :
    OkUnless (arm ≠ .generic ∧ maxIndex > 4294967295) (OptSpec rows (HoldsMax o rows 32 f))
      (dispArgmaxF32 o arm maxIndex rows f) := by
  have h := pipeArgmaxF32_answer o ht hbot arm 32 (.u32 arm) maxIndex rows hle f
  cases arm <;> exact h

theorem dispMaxF32_answer (o : Cmp α) (ht : o.Total) (arm : Backend) (rows : Nat)
    (f : Nat → Nat → α) : OptSpec rows (IsMax o rows 32 f) (dispMaxF32 o arm rows f) := by
  cases arm with
  | generic | sse2 => exact maxGeneric_answer o ht 32 rows (by decide) f
  | avx2 => exact maxF32Avx2_answer o ht rows f

theorem dispArgmaxU8_answer (o : Cmp UInt8) (ho : IsU8 o) (arm : Backend) (rows : Nat)
    (f : Nat → Nat → UInt8) :
    OkUnless (arm = .avx2 ∧ rows > 65536) (OptSpec rows (HoldsMax o rows 32 f))
      (dispArgmaxU8 o arm rows f) := by
  have h := pipeArgmaxU8_answer o ho arm 32 (.u32 arm) rows f
  cases arm <;> exact h

theorem dispMaxU8_answer (o : Cmp UInt8) (ho : IsU8 o) (arm : Backend) (rows : Nat)
    (f : Nat → Nat → UInt8) : OptSpec rows (IsMax o rows 32 f) (dispMaxU8 o arm rows f) := by
  have h := pipeMaxU8_answer o ho arm 32 (.u32 arm) rows f
  cases arm <;> exact h

/-! ### `StripedScores::{max, argmax, threshold}` (offsets) and `Scores` -/

theorem striped_argmaxF32_answer (o : Cmp α) (ht : o.Total) (hbot : ∀ v, o.le o.negInf v = true)
    (arm : Backend) (s : Striped α 32) (hle : s.data.rows ≤ 4294967296) :
    OkUnless (arm ≠ .generic ∧ s.maxIndex > 4294967295)
      (OptSpec s.data.rows fun p =>
        ∃ c, HoldsMax o s.data.rows 32 (s.cell o) c ∧ p = c.2 * s.data.rows + c.1)
      (s.argmaxF32 o arm) :=
  (dispArgmaxF32_answer o ht hbot arm s.maxIndex s.data.rows hle (s.cell o)).map_coord s.offset
    fun c hc => ⟨c, hc, rfl⟩

theorem striped_argmaxU8_answer (o : Cmp UInt8) (ho : IsU8 o) (arm : Backend) (s : Striped UInt8 32) :
    OkUnless (arm = .avx2 ∧ s.data.rows > 65536)
      (OptSpec s.data.rows fun p =>
        ∃ c, HoldsMax o s.data.rows 32 (s.cell o) c ∧ p = c.2 * s.data.rows + c.1)
      (s.argmaxU8 o arm) :=
  (dispArgmaxU8_answer o ho arm s.data.rows (s.cell o)).map_coord s.offset
    fun c hc => ⟨c, hc, rfl⟩

/-- `StripedScores::threshold`: the offsets of exactly the cells `>= t`, each once, whatever arm -/
theorem striped_threshold_spec (o : Cmp α) (arm : Backend) (s : Striped α 32) (t : α) :
    (s.threshold o arm t).Nodup ∧
    ∀ p, p ∈ s.threshold o arm t ↔
      ∃ c : Coord, c.1 < s.data.rows ∧ c.2 < 32 ∧ o.le t (s.cell o c.1 c.2) = true ∧
        p = c.2 * s.data.rows + c.1 := by
  constructor
  · simp only [Striped.threshold, List.Nodup]
    rw [List.pairwise_map]
    refine List.Pairwise.imp_of_mem ?_ (thresholdGeneric_nodup o 32 s.data.rows (s.cell o) t)
    intro a b ha hb hab heq
    have ha' := (mem_thresholdGeneric o 32 _ _ t a).1 ha
    have hb' := (mem_thresholdGeneric o 32 _ _ t b).1 hb
    exact hab (offset_inj s.data.rows a b ha'.1 hb'.1 heq)
  · intro p
    simp only [Striped.threshold, List.mem_map, mem_thresholdGeneric, Striped.offset]
    constructor
    · rintro ⟨c, ⟨h1, h2, h3⟩, rfl⟩; exact ⟨c, h1, h2, h3, rfl⟩
    · rintro ⟨c, h1, h2, h3, rfl⟩; exact ⟨c, ⟨h1, h2, h3⟩, rfl⟩

/-- The threshold set does not depend on the arm: `rfl`, because `Striped.threshold` ignores its
    arm.  That every `Threshold` impl in pli/mod.rs is the trait default is checked by the generator
    of `LMV.Gen.MaxK` (it stops on an impl shape it does not mirror), not by a theorem. -/
theorem striped_threshold_arm (o : Cmp α) (arm arm' : Backend) (s : Striped α 32) (t : α) :
    s.threshold o arm t = s.threshold o arm' t := rfl

theorem scoresMax_none_iff (o : Cmp α) (l : List α) : scoresMax o l = none ↔ l = [] :=
  reduce1_eq_none _ l

theorem scoresMax_spec (o : Cmp α) (ht : o.Total) (l : List α) (v : α)
    (h : scoresMax o l = some v) : v ∈ l ∧ ∀ x ∈ l, o.le x v = true :=
  reduce1_maxLike o ht _ (iterMaxOp_maxLike o ht) l v h

theorem scoresArgmax_none_iff (o : Cmp α) (l : List α) : scoresArgmax o l = none ↔ l = [] := by
  simp only [scoresArgmax, Option.map_eq_none_iff, reduce1_eq_none]
  cases l <;> simp [List.zipIdx_cons]

theorem scoresArgmax_spec (o : Cmp α) (ht : o.Total) (l : List α) (i : Nat)
    (h : scoresArgmax o l = some i) :
    ∃ v, l[i]? = some v ∧ ∀ x ∈ l, o.le x v = true := by
  simp only [scoresArgmax, Option.map_eq_some_iff] at h
  obtain ⟨⟨v, j⟩, hr, rfl⟩ := h
  obtain ⟨hmem, hdom⟩ := reduce1_max o ht (fun x : α × Nat => x.1) _ (fun x y => by
    cases hc : o.lt y.1 x.1
    · exact Or.inr ⟨by simp, ht.le_of_not_lt hc⟩
    · exact Or.inl ⟨by simp, ht.le_of_lt hc⟩) _ _ hr
  refine ⟨v, List.mk_mem_zipIdx_iff_getElem?.1 hmem, fun x hx => ?_⟩
  obtain ⟨k, hk⟩ := List.mem_iff_getElem?.1 hx
  exact hdom (x, k) (List.mk_mem_zipIdx_iff_getElem?.2 hk)

/-- `Scores::threshold`: exactly the positions whose score is `>= t`, each once -/
theorem scoresThreshold_spec (o : Cmp α) (l : List α) (t : α) :
    (scoresThreshold o l t).Nodup ∧
    ∀ i, i ∈ scoresThreshold o l t ↔ ∃ v, l[i]? = some v ∧ o.le t v = true := by
  constructor
  · have hsub : ((l.zipIdx.filter fun x => o.le t x.1).map (·.2)).Sublist (l.zipIdx.map (·.2)) :=
      List.Sublist.map _ List.filter_sublist
    refine List.Nodup.sublist hsub ?_
    rw [List.zipIdx_map_snd]
    exact List.nodup_range'
  · intro i
    simp only [scoresThreshold, List.mem_map, List.mem_filter]
    constructor
    · rintro ⟨⟨v, j⟩, ⟨hm, hle⟩, rfl⟩
      exact ⟨v, List.mk_mem_zipIdx_iff_getElem?.1 hm, hle⟩
    · rintro ⟨v, hv, hle⟩
      exact ⟨(v, i), ⟨List.mk_mem_zipIdx_iff_getElem?.2 hv, hle⟩, rfl⟩

/-! ### The padding clause: a −∞ wildcard column makes every window past the end score −∞

  Here for a definition-level window score (`windowScore`, `padSym`).  That this is the score C01's
  model computes, and the clause for the matrix a scan RETURNS (`cell_past_end_bot`,
  `holdsMax_is_best_valid`, `stripedMax_of_scan`, …), are in Props/Bridge/B1. -/

section Padding
variable {β : Type}

/-- the symbol read at position `p` of a sequence of length `L` striped with wildcard padding `N` -/
def padSym (s : Nat → Nat) (L N : Nat) (p : Nat) : Nat := if p < L then s p else N

/-- definition-level score of the window at position `i`: the left fold of `add` over the `M` rows
    of the scoring matrix `m` (row `j`, symbol `a` ↦ `m j a`), starting from `zero` -/
def windowScore (add : β → β → β) (zero : β) (m : Nat → Nat → β) (M : Nat) (sym : Nat → Nat)
    (i : Nat) : β :=
  (List.range M).foldl (fun acc j => add acc (m j (sym (i + j)))) zero

/-- with an absorbing `bot` in the wildcard column, every window that reaches past the end of the
    sequence scores `bot` -/
theorem windowScore_past_end (add : β → β → β) (zero bot : β) (hbot : ∀ x, add x bot = bot)
    (m : Nat → Nat → β) (M N : Nat) (hN : ∀ j, j < M → m j N = bot) (hM : 0 < M)
    (s : Nat → Nat) (L i : Nat) (hi : L < i + M) :
    windowScore add zero m M (padSym s L N) i = bot := by
  obtain ⟨k, rfl⟩ : ∃ k, M = k + 1 := ⟨M - 1, (Nat.sub_add_cancel hM).symm⟩
  simp only [windowScore, List.range_succ, List.foldl_append, List.foldl_cons, List.foldl_nil]
  have : padSym s L N (i + k) = N := if_neg (Nat.not_lt.2 (Nat.le_of_lt_succ hi))
  rw [this, hN k (Nat.lt_succ_self k), hbot]

/-- The maximum over all cells is the best valid score: positions past the end score `bot`
    (`hpast`), nothing but `bot` is `<= bot`, so a cell holding the maximum cannot lie past the end
    as soon as one score is not `bot`. -/
theorem holdsMax_valid (o : Cmp β) (bot : β) (hbotmin : ∀ x, o.le x bot = true → x = bot)
    (w : Nat → β) (M L : Nat) (hpast : ∀ i, L < i + M → w i = bot) (R C : Nat)
    (f : Nat → Nat → β) (hf : ∀ r c, r < R → c < C → f r c = w (c * R + r)) (p : Coord)
    (hp : HoldsMax o R C f p) (i0 : Nat) (hi0c : i0 < R * C) (hfin : w i0 ≠ bot) :
    (p.2 * R + p.1) + M ≤ L ∧ ∀ i, i < R * C → o.le (w i) (w (p.2 * R + p.1)) = true := by
  -- every position below R * C is a cell
  have hcell : ∀ i, i < R * C → o.le (w i) (w (p.2 * R + p.1)) = true := by
    intro i hi
    obtain ⟨h1, h2, e⟩ := pos_coord (Nat.mul_comm R C ▸ hi)
    have h3 := hp.2.2 (i % R) (i / R) h1 h2
    rwa [hf _ _ h1 h2, hf _ _ hp.1 hp.2.1, e] at h3
  refine ⟨Nat.le_of_not_lt fun hpast' => ?_, hcell⟩
  -- the designated position cannot reach past the end: its score would be `bot`
  exact hfin (hbotmin _ (hpast _ hpast' ▸ hcell i0 hi0c))

/-- the same for the maximum *value*: it is the score of a valid position and dominates the
    score of every valid position -/
theorem max_value_is_best_valid (o : Cmp β) (add : β → β → β) (zero bot : β)
    (hbot : ∀ x, add x bot = bot) (hbotmin : ∀ x, o.le x bot = true → x = bot)
    (m : Nat → Nat → β) (M N : Nat) (hN : ∀ j, j < M → m j N = bot) (hM : 0 < M)
    (s : Nat → Nat) (L R C : Nat) (v : β)
    (hv : IsMax o R C (fun r c => windowScore add zero m M (padSym s L N) (c * R + r)) v)
    (i0 : Nat) (hi0c : i0 < R * C)
    (hfin : windowScore add zero m M (padSym s L N) i0 ≠ bot) :
    (∃ i, i + M ≤ L ∧ i < R * C ∧ windowScore add zero m M (padSym s L N) i = v) ∧
    ∀ i, i + M ≤ L → i < R * C → o.le (windowScore add zero m M (padSym s L N) i) v = true := by
  obtain ⟨⟨r, c, hr, hc, rfl⟩, hdom⟩ := hv
  obtain ⟨h1, h2⟩ := holdsMax_valid o bot hbotmin (windowScore add zero m M (padSym s L N)) M L
    (fun i hi => windowScore_past_end add zero bot hbot m M N hN hM s L i hi) R C _
    (fun _ _ _ _ => rfl) (r, c) ⟨hr, hc, hdom⟩ i0 hi0c hfin
  exact ⟨⟨c * R + r, h1, Nat.mul_comm C R ▸ pos_lt hc hr, rfl⟩, fun i _ hic => h2 i hic⟩

end Padding

/-! ### The property in one statement per element type -/

/-- C07 for float `StripedScores` (NaN-free = `Cmp.Total`, `−∞` least), whatever arm the
    dispatcher takes: `None` exactly on an empty matrix; the maximum is attained and dominates every
    cell; the arg-maximum is the offset of a cell holding it; thresholding returns exactly the cells
    `>= t`, each once; the maximum agrees with the generic backend's and the threshold list does
    not depend on the arm. -/
theorem c07_striped_f32 (o : Cmp α) (ht : o.Total) (hbot : ∀ v, o.le o.negInf v = true)
    (arm : Backend) (s : Striped α 32) (hmi : s.maxIndex ≤ 4294967295)
    (hle : s.data.rows ≤ 4294967296) :
    (s.maxF32 o arm = none ↔ s.data.rows = 0) ∧
    (s.argmaxF32 o arm = .ok none ↔ s.data.rows = 0) ∧
    (∀ v, s.maxF32 o arm = some v → IsMax o s.data.rows 32 (s.cell o) v) ∧
    (∀ p, s.argmaxF32 o arm = .ok (some p) →
      ∃ c, HoldsMax o s.data.rows 32 (s.cell o) c ∧ p = c.2 * s.data.rows + c.1) ∧
    (∀ t, (s.threshold o arm t).Nodup ∧ ∀ p, p ∈ s.threshold o arm t ↔
      ∃ c : Coord, c.1 < s.data.rows ∧ c.2 < 32 ∧ o.le t (s.cell o c.1 c.2) = true ∧
        p = c.2 * s.data.rows + c.1) ∧
    MaxAgree o (s.maxF32 o arm) (maxGeneric o 32 s.data.rows (s.cell o)) ∧
    (∀ t arm', s.threshold o arm t = s.threshold o arm' t) :=
  have hmax := dispMaxF32_answer o ht arm s.data.rows (s.cell o)
  have harg := striped_argmaxF32_answer o ht hbot arm s hle
  ⟨hmax.none_iff, harg.ok_none_iff fun h => Nat.not_lt.2 hmi h.2, fun _ e => hmax.of_some e,
   fun _ e => (harg.of_ok e).of_some rfl, striped_threshold_spec o arm s,
   hmax.agree (maxGeneric_answer o ht 32 _ (by decide) _), fun _ _ => rfl⟩

/-- C07 for 8-bit `StripedScores`, any number of rows; only "`argmax` is `None` iff empty" (fourth
    clause) needs `rows ≤ 65 536`, above which the AVX2 `argmax` panics (16-bit index lanes) -/
theorem c07_striped_u8 (o : Cmp UInt8) (ho : IsU8 o) (arm : Backend) (s : Striped UInt8 32) :
    (s.maxU8 o arm = none ↔ s.data.rows = 0) ∧
    (∀ v, s.maxU8 o arm = some v → IsMax o s.data.rows 32 (s.cell o) v) ∧
    (∀ p, s.argmaxU8 o arm = .ok (some p) →
      ∃ c, HoldsMax o s.data.rows 32 (s.cell o) c ∧ p = c.2 * s.data.rows + c.1) ∧
    (s.data.rows ≤ 65536 → (s.argmaxU8 o arm = .ok none ↔ s.data.rows = 0)) ∧
    (∀ t, (s.threshold o arm t).Nodup ∧ ∀ p, p ∈ s.threshold o arm t ↔
      ∃ c : Coord, c.1 < s.data.rows ∧ c.2 < 32 ∧ o.le t (s.cell o c.1 c.2) = true ∧
        p = c.2 * s.data.rows + c.1) ∧
    s.maxU8 o arm = maxGeneric o 32 s.data.rows (s.cell o) :=
  have hmax := dispMaxU8_answer o ho arm s.data.rows (s.cell o)
  have harg := striped_argmaxU8_answer o ho arm s
  ⟨hmax.none_iff, fun _ e => hmax.of_some e, fun _ e => (harg.of_ok e).of_some rfl,
   fun h => harg.ok_none_iff fun g => Nat.not_lt.2 h g.2, striped_threshold_spec o arm s,
   (hmax.agree (maxGeneric_answer o ho.total 32 _ (by decide) _)).eq ho.anti⟩

/-! ### Examples: the hypotheses are satisfiable and the kernels do return something -/

/-- `Nat` with its order; `0` is both the zero pattern and the least element -/
def natCmp : Cmp Nat := ⟨Nat.ble, Nat.blt, 0, 0⟩

theorem natCmp_total : natCmp.Total :=
  .of_rel (· ≤ ·) Nat.le_total (fun _ _ _ => Nat.le_trans) (fun _ _ => Nat.ble_eq.to_iff)
    (fun _ _ => Nat.blt_eq.to_iff.trans Nat.not_le.symm)

/-- a 3 × 32 matrix with maximum 50 planted at (2, 9) and again at (1, 20); everything else < 11 -/
def demo (r c : Nat) : Nat :=
  if (r = 2 ∧ c = 9) ∨ (r = 1 ∧ c = 20) then 50 else (7 * r + 3 * c) % 11

def demoU8 (r c : Nat) : UInt8 := (demo r c).toUInt8

example : natCmp.Total := natCmp_total
example : ∀ v, natCmp.le natCmp.negInf v = true := by intro v; simp [natCmp]
example : Supported .generic 4 ∧ Supported .sse2 32 ∧ Supported .avx2 32 :=
  ⟨by show 0 < 4; decide, ⟨2, by decide, rfl⟩, rfl⟩
-- the scans return a cell holding 50, not cell (0, 0); which of the two is left free
example : argmaxGeneric natCmp 32 3 demo = some (2, 9) := by decide +kernel
example : maxGeneric natCmp 32 3 demo = some 50 := by decide +kernel
example : thresholdGeneric natCmp 32 3 demo 11 = [(1, 20), (2, 9)] := by decide +kernel
example : argmaxF32Avx2 natCmp 96 3 demo = .ok (some (2, 9)) := by decide +kernel
example : argmaxSse2 natCmp 32 96 3 demo = .ok (some (1, 20)) := by decide +kernel
example : maxF32Avx2 natCmp 3 demo = some 50 := by decide +kernel
example : maxU8Avx2 natCmp 3 demo = some 50 := by decide +kernel
example : argmaxU8Avx2 u8Cmp 3 demoU8 = .ok (some (1, 20)) := by decide +kernel
example : (∃ e, argmaxU8Avx2 u8Cmp 65537 demoU8 = .error e) :=
  (argmaxU8Avx2_panic_iff _ _ _).2 (by decide)
example : dispMaxF32 natCmp .avx2 3 demo = some 50 ∧ dispMaxF32 natCmp .sse2 3 demo = some 50 := by
  decide +kernel
example : scoresArgmax natCmp [3, 9, 2, 9, 1] = some 3 ∧ scoresMax natCmp [3, 9, 2, 9, 1] = some 9 ∧
    scoresThreshold natCmp [3, 9, 2, 9, 1] 3 = [0, 1, 3] := by decide
example : HoldsMax natCmp 3 32 demo (2, 9) :=
  ((argmaxF32Avx2_answer natCmp natCmp_total 96 3 (by decide) demo).of_ok
    (b := some (2, 9)) (by decide +kernel)).of_some rfl

-- the bundled statements apply to a concrete `StripedScores` (3 rows, max_index 96)
example : (⟨Mat.ofFn 3 demo, 96⟩ : Striped Nat 32).argmaxF32 natCmp .avx2 = .ok (some (9 * 3 + 2)) ∧
    (⟨Mat.ofFn 3 demo, 96⟩ : Striped Nat 32).maxF32 natCmp .sse2 = some 50 ∧
    (⟨Mat.ofFn 3 demo, 96⟩ : Striped Nat 32).threshold natCmp .generic 11 = [20 * 3 + 1, 9 * 3 + 2] := by
  decide +kernel
example : (⟨Mat.ofFn 3 demoU8, 96⟩ : Striped UInt8 32).argmaxU8 u8Cmp .avx2 = .ok (some (20 * 3 + 1)) := by
  decide +kernel

/-! the padding clause instantiated: scores in `Option Nat` with `none` = −∞ absorbing; motif of
    width 2 over the alphabet {0, 1, wildcard 2}; sequence 0 1 1 0 of length 4 striped in 2 × 3 -/

def optAdd : Option Nat → Option Nat → Option Nat
  | some a, some b => some (a + b)
  | _, _ => none

def optCmp : Cmp (Option Nat) where
  le a b := match a, b with
    | none, _ => true
    | some _, none => false
    | some x, some y => Nat.ble x y
  lt a b := match a, b with
    | _, none => false
    | none, some _ => true
    | some x, some y => Nat.blt x y
  zero := some 0
  negInf := none

def demoPssm (_j a : Nat) : Option Nat := if a = 2 then none else some (a + 1)
def demoSeq (p : Nat) : Nat := [0, 1, 1, 0].getD p 0

example : ∀ x, optAdd x none = none := by intro x; cases x <;> rfl
example : ∀ x, optCmp.le x none = true → x = none := by
  intro x; cases x <;> simp [optCmp]
example : windowScore optAdd (some 0) demoPssm 2 (padSym demoSeq 4 2) 3 = none := by decide
example : windowScore optAdd (some 0) demoPssm 2 (padSym demoSeq 4 2) 1 = some 4 := by decide
example : argmaxGeneric optCmp 3 2
    (fun r c => windowScore optAdd (some 0) demoPssm 2 (padSym demoSeq 4 2) (c * 2 + r)) = some (1, 0) := by
  decide

end C07
end LMV
