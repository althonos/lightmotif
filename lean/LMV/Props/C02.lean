/-
  C02 — iterating the scanner to exhaustion yields exactly the positions scoring at or above the
  threshold, each once, with its exact score, without panicking.

  Part 1 (abstract): for EVERY kernel record satisfying `KernelSpec` — the SIMD-free specification
  of block scoring, block maximum, candidate list, re-scoring and the byte mapping — every
  threshold and every block size `≥ 1`.  Induction over blocks with the invariant
  "hits buffered ∪ qualifying positions in rows ≥ row = qualifying positions not yet returned"
  (`remaining`).
  Part 2: the kernels of the real `Scanner` (every dispatcher arm, both build profiles) satisfy
  `KernelSpec` in exact arithmetic, from C04 (striping invariant), C08 (bytes dominate) and the
  specifications of `max` / `threshold` proved here.
-/
import LMV.Lemmas.ScanAbstract
import LMV.Props.C07
import LMV.Props.C08

namespace LMV
namespace C02

open Scanner Disc

variable {α : Type} [ScanScalar α] {C : Nat}

/-! ### Part 1: every kernel record satisfying `KernelSpec` -/

/-- the hits `Scanner` must still yield in state `st`: the buffered ones and those of the rows not
    yet scored; the block loop leaves it unchanged up to order -/
def remaining (score : Nat → α) (t : α) (nPos R : Nat) (st : State α) : List (Hit α) :=
  st.hits ++ (rowsQual score t nPos R st.row R).map (mkHit score)

/-- the skip of a block is read as re-scoring its (empty) candidate list -/
theorem blockStep_eq {k : Kernels α C} {R nPos : Nat} {score : Nat → α}
    (spec : KernelSpec k R nPos score) (t : α) (block : Nat) (st : State α) {ds : Scores C}
    (hds : k.scoreRows st.row (min (st.row + block) R) = .ok ds) {hits : List (Hit α)}
    (hr : rescore k t st.row ds.maxIndex (k.threshold ds (k.scale t)) st.hits = .ok hits) :
    blockStep k t block st = .ok ⟨st.row + block, hits⟩ := by
  unfold blockStep
  simp only [spec.seqRows, hds]
  by_cases hnil : k.threshold ds (k.scale t) = []
  · rw [hnil] at hr ⊢
    cases hr
    cases k.max ds with
    | none => rfl
    | some m => simp only [rescore, ite_self]
  · obtain ⟨m, hm, hge⟩ := max_ge_of_cand spec ds _ hnil
    simp only [hm, if_pos hge, hr]

theorem blockStep_spec {k : Kernels α C} {R nPos : Nat} {score : Nat → α}
    (spec : KernelSpec k R nPos score) (t : α) (block : Nat) (hb : 1 ≤ block) (st : State α)
    (hrow : st.row < R) :
    ∃ st', blockStep k t block st = .ok st' ∧ st'.row = st.row + block ∧
      (remaining score t nPos R st').Perm (remaining score t nPos R st) := by
  have he1 : st.row < min (st.row + block) R := Nat.lt_min.2 ⟨Nat.lt_add_of_pos_right hb, hrow⟩
  have he2 : min (st.row + block) R ≤ R := Nat.min_le_right _ _
  obtain ⟨ds, hds, hblk⟩ := spec.block he1 he2
  refine ⟨_, blockStep_eq spec t block st hds
    (rescore_eq spec t st.row _ _ (hblk.maxIndex_of_cand spec) _), rfl, ?_⟩
  -- the positions pushed are the qualifying positions of the block; no position lies beyond row `R`
  have hL := keep_perm spec t he2 hblk
  have hsplit := rowsQual_split score t nPos R st.row (min (st.row + block) R) R he1.le he2
  have hfut : rowsQual score t nPos R (st.row + block) R =
      rowsQual score t nPos R (min (st.row + block) R) R :=
    List.filter_congr fun i hi => by
      have := Nat.mod_lt i (R_pos_of_pos spec.fits (List.mem_range.mp hi))
      have hmin : min (st.row + block) R ≤ i % R ↔ st.row + block ≤ i % R :=
        min_le_iff.trans (or_iff_left (Nat.not_le.2 this))
      rw [decide_eq_decide.2 hmin]
  unfold remaining
  rw [hfut]
  refine (((List.reverse_perm _).append_right _).trans List.perm_append_comm
    |>.append_right _).trans ?_
  rw [List.append_assoc, ← List.map_append]
  exact (((hL.append_right _).trans hsplit.symm).map _).append_left _

theorem nextLoop_spec {k : Kernels α C} {R nPos : Nat} {score : Nat → α}
    (spec : KernelSpec k R nPos score) (t : α) (block : Nat) (hb : 1 ≤ block) (fuel : Nat)
    (st : State α) (hfuel : R ≤ st.row + fuel) :
    ∃ st', nextLoop k t block (fuel + 1) st = .ok st' ∧
      (st'.hits ≠ [] ∨ R ≤ st'.row) ∧
      (remaining score t nPos R st').Perm (remaining score t nPos R st) := by
  induction fuel generalizing st with
  | zero =>
    refine ⟨st, ?_, Or.inr hfuel, List.Perm.refl _⟩
    unfold nextLoop
    rw [if_neg]
    rw [spec.seqRows]; exact fun h => Nat.not_lt.2 hfuel h.2
  | succ fuel ih =>
    unfold nextLoop
    by_cases hcond : st.hits.isEmpty = true ∧ st.row < k.seqRows
    · rw [if_pos hcond]
      obtain ⟨st1, h1, hrow1, hperm1⟩ := blockStep_spec spec t block hb st (by rw [← spec.seqRows]; exact hcond.2)
      rw [h1]
      obtain ⟨st2, h2, hdone, hperm2⟩ := ih st1 (hrow1 ▸ fuel_step hb hfuel)
      exact ⟨st2, h2, hdone, hperm2.trans hperm1⟩
    · rw [if_neg hcond]
      rw [spec.seqRows] at hcond
      exact ⟨st, rfl, (not_and_or.1 hcond).imp (mt List.isEmpty_iff.2) Nat.le_of_not_lt,
        List.Perm.refl _⟩

theorem next_spec {k : Kernels α C} {R nPos : Nat} {score : Nat → α}
    (spec : KernelSpec k R nPos score) (t : α) (block : Nat) (hb : 1 ≤ block) (st : State α) :
    (∃ h st', next k t block st = .ok (some h, st') ∧
        (h :: remaining score t nPos R st').Perm (remaining score t nPos R st)) ∨
    (∃ st', next k t block st = .ok (none, st') ∧ remaining score t nPos R st = [] ∧
        remaining score t nPos R st' = []) := by
  obtain ⟨st1, h1, hdone, hperm⟩ := nextLoop_spec spec t block hb R st (Nat.le_add_left _ _)
  unfold next
  rw [spec.seqRows, h1]
  cases hh : st1.hits with
  | nil =>
    right
    have hR : R ≤ st1.row := hdone.resolve_left fun h => h hh
    have hnil : remaining score t nPos R st1 = [] := by
      unfold remaining
      rw [hh, rowsQual_beyond score t nPos R _ R spec.fits hR]; rfl
    refine ⟨st1, by simp only [hh], ?_, hnil⟩
    rw [hnil] at hperm
    exact List.Perm.eq_nil hperm.symm
  | cons h hs =>
    left
    refine ⟨h, ⟨st1.row, hs⟩, by simp only [hh], ?_⟩
    have : h :: remaining score t nPos R ⟨st1.row, hs⟩ = remaining score t nPos R st1 := by
      unfold remaining; rw [hh]; rfl
    rw [this]; exact hperm

theorem collect_from {k : Kernels α C} {R nPos : Nat} {score : Nat → α}
    (spec : KernelSpec k R nPos score) (t : α) (block : Nat) (hb : 1 ≤ block) (fuel : Nat)
    (st : State α) (hfuel : (remaining score t nPos R st).length < fuel) :
    ∃ hs, collect k t block fuel st = .ok hs ∧ hs.Perm (remaining score t nPos R st) := by
  induction fuel generalizing st with
  | zero => exact absurd hfuel (Nat.not_lt_zero _)
  | succ fuel ih =>
    unfold collect
    rcases next_spec spec t block hb st with ⟨h, st', hn, hperm⟩ | ⟨st', hn, hnil, -⟩
    · rw [hn]
      obtain ⟨hs, hc, hp⟩ := ih st' (Nat.lt_of_succ_lt_succ (hperm.length_eq.trans_lt hfuel))
      refine ⟨h :: hs, by simp only [hc], ?_⟩
      exact (List.Perm.cons h hp).trans hperm
    · rw [hn, hnil]
      exact ⟨[], rfl, List.Perm.refl _⟩

theorem remaining_init {k : Kernels α C} {R nPos : Nat} {score : Nat → α}
    (spec : KernelSpec k R nPos score) (t : α) :
    remaining score t nPos R (State.init : State α) = (allQual score t nPos).map (mkHit score) := by
  unfold remaining State.init
  simp only [List.nil_append]
  rw [rowsQual_all score t nPos R spec.fits]

/-- **C02 (abstract form).**  For every kernel record satisfying `KernelSpec`, every threshold and
    every block size `≥ 1`: iterating a fresh scanner to exhaustion does not panic and yields a
    permutation of `[(i, score i) | i < nPos, score i ≥ t]` — each qualifying position exactly
    once, with its exact score, and nothing else. -/
theorem collect_spec {k : Kernels α C} {R nPos : Nat} {score : Nat → α}
    (spec : KernelSpec k R nPos score) (t : α) (block : Nat) (hb : 1 ≤ block) (fuel : Nat)
    (hfuel : nPos < fuel) :
    ∃ hs, collect k t block fuel State.init = .ok hs ∧
      hs.Perm ((allQual score t nPos).map (mkHit score)) := by
  have hlen : (remaining score t nPos R (State.init : State α)).length < fuel := by
    rw [remaining_init spec, List.length_map]
    exact Nat.lt_of_le_of_lt ((List.length_filter_le _ _).trans_eq List.length_range) hfuel
  obtain ⟨hs, hc, hp⟩ := collect_from spec t block hb fuel State.init hlen
  exact ⟨hs, hc, by rw [← remaining_init spec]; exact hp⟩

/-! ### Part 2: the kernels of the real scanner satisfy the specification -/

/-! The block maximum and the candidate list of Model/Scanner (hand-written for `u8` from scan.rs's
    callees) against those of Model/Maximum, whose specifications are C07's.  `Scanner.maxAvx2` (per
    column, any `C`) and `Maximum.maxU8Avx2` (32 slots, regenerated tables) both model `max_u8_avx2`;
    they are proved equal in `Bridge.scannerMax_eq_c07`, from the two specifications and antisymmetry
    of `≤` on `u8`, not by unfolding. -/

section maxThreshold
open Maximum

/-- the trait-default `max` of Model/Scanner is `Maximum.maxGeneric` at `u8`: the same scan, the
    running best a triple there and a `Best` here -/
theorem maxGeneric_eq (sc : Scores C) : Scanner.maxGeneric sc =
    Maximum.maxGeneric C07.u8Cmp C sc.data.rows (fun r c => sc.data.get r c) := by
  unfold Scanner.maxGeneric Maximum.maxGeneric maxOfArgmax argmaxGeneric
  by_cases h0 : sc.data.rows = 0
  · rw [if_pos h0, if_pos h0]; rfl
  rw [if_neg h0, if_neg h0]
  simp only [Option.map_some, Nat.zero_mod, Nat.zero_div]
  have inner : ∀ (i : Nat) (b : Best UInt8),
      (List.range C).foldl (fun (acc : Nat × Nat × UInt8) j =>
        if sc.data.get i j ≥ acc.2.2 then (i, j, sc.data.get i j) else acc) (b.row, b.col, b.score) =
      (fun b : Best UInt8 => (b.row, b.col, b.score))
        ((List.range C).foldl (genericStep C07.u8Cmp (fun r c => sc.data.get r c) i) b) :=
    fun i b => List.foldl_hom (fun b : Best UInt8 => (b.row, b.col, b.score)) fun b j => by
      unfold genericStep
      simp only [LMV.Gen.MaxK.genericArgmaxRel, LMV.Gen.MaxK.Rel.eval, C07.u8Cmp,
        decide_eq_true_eq, ge_iff_le]
      exact Eq.symm (apply_ite (fun b : Best UInt8 => (b.row, b.col, b.score)) ..)
  have outer := List.foldl_hom (fun b : Best UInt8 => (b.row, b.col, b.score))
    (g₁ := fun b i => (List.range C).foldl (genericStep C07.u8Cmp (fun r c => sc.data.get r c) i) b)
    (g₂ := fun acc i => (List.range C).foldl (fun (acc : Nat × Nat × UInt8) j =>
      if sc.data.get i j ≥ acc.2.2 then (i, j, sc.data.get i j) else acc) acc)
    (l := List.range sc.data.rows) (init := ⟨0, 0, sc.data.get 0 0⟩) (fun b i => inner i b)
  rw [outer]

theorem u8max_maxLike : MaxLike C07.u8Cmp (fun m x : UInt8 => if x ≥ m then x else m) := by
  intro a b
  simp only [C07.u8Cmp, decide_eq_true_eq, ge_iff_le]
  split
  · next h => exact ⟨Or.inr rfl, h, UInt8.le_refl _⟩
  · next h => exact ⟨Or.inl rfl, UInt8.le_refl _, UInt8.le_of_lt (UInt8.not_le.1 h)⟩

/-- `max_u8_avx2` of Model/Scanner (any column count): the lane maxima start from zero, and so does
    their maximum; a zero result is attained as soon as there is a cell, every cell being `≤` it -/
theorem maxAvx2_answer (hC : 0 < C) (sc : Scores C) :
    C07.OptSpec sc.data.rows (C07.IsMax C07.u8Cmp sc.data.rows C fun r c => sc.data.get r c)
      (Scanner.maxAvx2 sc) := by
  unfold Scanner.maxAvx2
  refine C07.OptSpec.ite fun hrows => ⟨hrows, ?_⟩
  have ht := C07.u8Cmp_isU8.total
  have hpos := Nat.pos_of_ne_zero hrows
  have hL := fun c => laneFold_maxLike C07.u8Cmp ht (fun _ m x => if x ≥ m then x else m)
    (fun _ => u8max_maxLike) (fun r => sc.data.get r c) sc.data.rows 0
  rw [List.foldl_map]
  obtain ⟨h1, -, h3⟩ := laneFold_maxLike C07.u8Cmp ht (fun _ m x => if x ≥ m then x else m)
    (fun _ => u8max_maxLike) (fun c => (List.range sc.data.rows).foldl
      (fun m r => if sc.data.get r c ≥ m then sc.data.get r c else m) 0) C 0
  dsimp only [laneFold] at hL h1 h3
  generalize List.foldl _ (0 : UInt8) (List.range C) = v at h1 h3 ⊢
  have hdom : ∀ r c, r < sc.data.rows → c < C → C07.u8Cmp.le (sc.data.get r c) v = true :=
    fun r c hr hc => ht.trans _ _ _ ((hL c).2.2 r hr) (h3 c hc)
  -- a zero is the content of any cell below it
  have hzero : ∀ r c, r < sc.data.rows → c < C → C07.u8Cmp.le (sc.data.get r c) 0 = true →
      v = 0 → ∃ r c, r < sc.data.rows ∧ c < C ∧ sc.data.get r c = v :=
    fun r c hr hc h e => ⟨r, c, hr, hc, e ▸ C07.u8Cmp_isU8.anti _ _ h (C07.u8Cmp_isU8.zero_le _)⟩
  refine ⟨?_, hdom⟩
  rcases h1 with e | ⟨c, hc, e⟩
  · exact hzero 0 0 hpos hC (e ▸ hdom 0 0 hpos hC) e
  · rcases (hL c).1 with e' | ⟨r, hr, e'⟩
    · exact hzero 0 c hpos hc (e' ▸ (hL c).2.2 0 hpos) (e.trans e')
    · exact ⟨r, c, hr, hc, (e.trans e').symm⟩

theorem maxDispatch_answer (hC : 0 < C) (arm : Arm) (sc : Scores C) :
    C07.OptSpec sc.data.rows (C07.IsMax C07.u8Cmp sc.data.rows C fun r c => sc.data.get r c)
      (maxDispatch arm sc) := by
  have hg : C07.OptSpec sc.data.rows _ (Scanner.maxGeneric sc) :=
    maxGeneric_eq sc ▸ C07.maxGeneric_answer _ C07.u8Cmp_isU8.total C _ hC _
  cases arm with
  | generic | sse2 => exact hg
  | avx2 => exact maxAvx2_answer hC sc

theorem threshold_eq (sc : Scores C) (t : UInt8) : Scanner.threshold sc t =
    Maximum.thresholdGeneric C07.u8Cmp C sc.data.rows (fun r c => sc.data.get r c) t := by
  unfold Scanner.threshold Maximum.thresholdGeneric
  simp only [LMV.Gen.MaxK.genericThresholdRel, LMV.Gen.MaxK.Rel.eval, C07.u8Cmp, ge_iff_le]

theorem threshold_mem (sc : Scores C) (t : UInt8) (r c : Nat) :
    (r, c) ∈ threshold sc t ↔ r < sc.data.rows ∧ c < C ∧ t ≤ sc.data.get r c := by
  rw [threshold_eq, C07.mem_thresholdGeneric]
  simp only [C07.u8Cmp, decide_eq_true_eq]

theorem threshold_nodup (sc : Scores C) (t : UInt8) : (threshold sc t).Nodup :=
  threshold_eq sc t ▸ C07.thresholdGeneric_nodup _ _ _ _ _

end maxThreshold

section concrete
open Striped
variable {K : Nat}

/-- the exact score of position `i`: `Σⱼ pssm[j][s⟦i+j⟧]` in the order of `score_position` -/
def scoreAt (p : Mat ERat K) (s : List Nat) (i : Nat) : ERat := scoreFn p (C08.window (K - 1) s i)

theorem kernels_spec (arm : Arm) (overflowChecks : Bool) {p : Mat ERat K} {x : ℕ → ℕ → ℚ}
    (hfin : C08.FiniteEntries p x) (hK : 2 ≤ K) {dm : Discrete ERat K}
    (hdm : toDiscrete p = .ok dm) (hf : 0 < C08.facQ K x p.rows) (hC : 0 < C)
    (st : Striped C) (s : List Nat) (hinv : C04.Inv (K - 1) st s) (hs : ∀ a ∈ s, a < K)
    (hM : 1 ≤ p.rows) (hwrap : p.rows - 1 ≤ st.wrap) :
    KernelSpec (kernels p dm st arm (accOf overflowChecks)) (C04.seqRowsOf C s.length)
      (s.length + 1 - p.rows) (scoreAt p s) := by
  obtain ⟨hoff, hfac, hrows, -⟩ := C08.toDiscrete_facts hfin hK hdm
  refine
    { hC := hC
      seqRows := by show st.data.rows - st.wrap = _; rw [hinv.rows, Nat.add_sub_cancel]
      fits := by
        have hL : s.length + 1 - p.rows ≤ s.length :=
          Nat.sub_le_of_le_add (Nat.add_le_add_left hM _)
        rw [Nat.mul_comm]
        exact Nat.le_trans hL (C04.seqRowsOf_mul_ge hC s.length)
      scoreRows := ?_
      scoreRowsShort := ?_
      max_none := fun ds h => (maxDispatch_answer hC arm ds).none_iff.1 h
      max_ge := fun ds m hm r c hr hc => by
        have h := ((maxDispatch_answer hC arm ds).of_some hm).2 r c hr hc
        rwa [C07.u8Cmp_isU8.1, decide_eq_true_eq] at h
      thr_nodup := threshold_nodup
      thr_mem := threshold_mem
      scorePosition := fun i hi =>
        C08.scorePosition_eq hC p hinv i (Nat.le_of_lt_succ (Nat.add_lt_of_lt_sub hi))
      scale_mono := fun a b hab => C08.scale_mono hoff hfac hf hab }
  · intro hpos lo hi hlo hhi
    -- C08 gives (rows, max_index), `KernelSpec.scoreRows` asks (max_index, rows)
    obtain ⟨sc, hsc, hRows, hMaxIndex, hcell⟩ := C08.backend_never_underestimates arm overflowChecks
      hfin hK hdm hf st s hinv hs hM hwrap (Nat.le_of_lt_succ (Nat.lt_of_sub_pos hpos))
      lo hi hlo hhi
    exact ⟨sc, hsc, hMaxIndex, hRows, fun r c hr' hc _ => hcell r c hr' hc⟩
  · intro hz lo hi
    have hshort : st.length < dm.data.rows := by
      rw [hrows, hinv.len]; exact Nat.le_of_sub_eq_zero hz
    exact ⟨Scores.empty, C08.scoreRowsDispatch_empty arm _ dm.data st lo hi (hrows ▸ hM)
      (hrows ▸ hwrap) (Or.inl hshort), rfl⟩

/-- **C02.**  Exact arithmetic; any alphabet size `K ≥ 2`, any column count `C ≥ 1`.  For every
    scoring matrix with finite non-wildcard entries (wildcard column `−∞` or finite) and
    `factor > 0`, every sequence `s` of symbols, every striped sequence satisfying the invariant of
    C04 for `s` with at least `M − 1` wrap rows (what `configure` establishes), every threshold,
    every block size `≥ 1`, every dispatcher arm and both build profiles: `Scanner::new` does not
    panic, iterating it to exhaustion does not panic, and the hits yielded are a permutation of
    `[(i, score i) | i + M ≤ L, score i ≥ t]`.  Covers `L < M`, `L = 0`, every alignment of the
    block boundaries with the sequence rows and wrap rows, thresholds at or below the minimum. -/
theorem scanner_yields_exactly (arm : Arm) (overflowChecks : Bool) {p : Mat ERat K} {x : ℕ → ℕ → ℚ}
    (hfin : C08.FiniteEntries p x) (hK : 2 ≤ K) (hf : 0 < C08.facQ K x p.rows) (hC : 0 < C)
    (st : Striped C) (s : List Nat) (hinv : C04.Inv (K - 1) st s) (hs : ∀ a ∈ s, a < K)
    (hM : 1 ≤ p.rows) (hwrap : p.rows - 1 ≤ st.wrap) (t : ERat) (block : Nat) (hb : 1 ≤ block)
    (fuel : Nat) (hfuel : s.length + 1 - p.rows < fuel) :
    ∃ dm, toDiscrete p = .ok dm ∧
      ∃ hs, collect (kernels p dm st arm (accOf overflowChecks)) t block fuel State.init = .ok hs ∧
        hs.Perm ((allQual (scoreAt p s) t (s.length + 1 - p.rows)).map (mkHit (scoreAt p s))) := by
  obtain ⟨dm, hdm⟩ := C08.toDiscrete_ok p
  exact ⟨dm, hdm, collect_spec
    (kernels_spec arm overflowChecks hfin hK hdm hf hC st s hinv hs hM hwrap) t block hb fuel hfuel⟩

/-! The 2-column motif of C08 (`C C`), the sequence `C C A C C T C` striped in 2
    columns with one wrap row — 4 sequence rows, so block sizes 1 and 3 cut it in 4 and 2 blocks -/

def sx : List Nat := [1, 1, 0, 1, 1, 2, 1]
def stx : Striped 2 := (stripeGeneric 4 sx Striped.empty).configureWrap 4 1

/-- the hypotheses of `scanner_yields_exactly` hold for it -/
example : C04.Inv 4 stx sx ∧ (∀ a ∈ sx, a < 5) ∧ 1 ≤ C08.pex.rows ∧ C08.pex.rows - 1 ≤ stx.wrap :=
  ⟨C04.configureWrap_inv (by decide) 4 sx _ 1 (C04.stripeGeneric_inv (by decide) 4 sx _),
   by decide, by simp [C08.pex], by simp [C08.pex, stx, C04.configureWrap_wrap]⟩

/-- positions yielded by the model, in the order of emission -/
def runx (t : ERat) (block : Nat) : Option (List Nat) :=
  match toDiscrete C08.pex with
  | .ok dm =>
    match collect (kernels C08.pex dm stx .generic .saturating) t block 10 State.init with
    | .ok hs => some (hs.map (·.position))
    | .error _ => none
  | .error _ => none

/-- threshold 2 = the maximum: the two occurrences of `C C`; threshold 1: every position (6 of
    them), in an order that depends on the block size -/
example : runx (.fin 2) 1 = some [0, 3] := by decide +kernel
example : runx (.fin 1) 1 = some [4, 0, 5, 1, 2, 3] := by decide +kernel
example : runx (.fin 1) 3 = some [2, 5, 1, 4, 0, 3] := by decide +kernel

end concrete

end C02
end LMV
