/-
  C16 — Gibbs sampler state always equals a recomputation from its alignment.

  Model: `LMV.Model.Sampler` (`init`, `next`, `run`; the random draws and the floating-point
  decisions are inputs constrained by `InitAdm` / `Adm` exactly as the code constrains them).
  The alignment a state describes is `(st s, act s)`; what "the counts of an alignment" means is
  `alignMotif` / `alignBg` / `alignCount` (LMV.Lemmas.SamplerInv), written from the property text.

  Everything here is for every dataset, alphabet size, width, mode, parameter set, and every finite
  stream of admissible choices (i.e. every seed and every run length).
-/
import LMV.Lemmas.SamplerStep
import LMV.Lemmas.SamplerInit

namespace LMV
namespace C16

open Sampler

variable {K : Nat} {D : Data} {P : Params}

/-- "any dataset whose sequences are longer than the width" -/
def Longer (D : Data) (w : Nat) : Prop := ∀ i, i < D.n → w < (D.seq i).size

/-- every choice along a run is admissible in the state in which it is made -/
def AdmRun (D : Data) (P : Params) : State K → List Choice → Prop
  | _, [] => True
  | s, c :: cs => Adm D P s c ∧ ∀ s' it, next D P s c = .ok (some (s', it)) → AdmRun D P s' cs

def TwoActive (D : Data) (s : State K) : Prop :=
  ∃ i j, i < D.n ∧ j < D.n ∧ i ≠ j ∧ act s i = true ∧ act s j = true

/-- The background clause in the form the code maintains it: the background counts are the cached
    symbol counts of the active sequences minus their window counts (no truncation: stated as
    `background + windows = cached counts`). -/
theorem bg_is_counts_minus_windows {s : State K} (hwf : D.WF K) (hinv : Inv D P.w s) (c : Nat) (hc : c < K) :
    s.bg.getD c 0 + sumTo D.n (fun i => if act s i = true then winCount (D.seq i) (st s i) P.w c else 0) =
      sumTo D.n (fun i => if act s i = true then (D.cnt i).getD c 0 else 0) := by
  rw [hinv.bg c hc]
  unfold alignBg
  rw [← sumTo_add]
  apply sumTo_congr
  intro i hi
  by_cases ha : act s i = true
  · rw [if_pos ha, if_pos ha, if_pos ha, hwf.cnt i hi c hc, symCount_eq _ (st s i) P.w c (hinv.inside i hi)]
  · rw [if_neg ha, if_neg ha, if_neg ha]

/-! ### the invariant holds initially -/

/-- `Inv` after `init`: whatever `_new` draws, the state it builds equals the recomputation from
    its alignment. -/
theorem inv_init {ic : InitChoice} {s : State K} (hwf : D.WF K) (hadm : InitAdm D P ic)
    (h : init D P ic = .ok s) : Inv D P.w s := ((init_spec hwf hadm).of_ok h).inv

/-- `_new` panics exactly when a sequence has fewer wrap rows than the width — given admissible
    draws, which exist only if every sequence has at least `w` symbols (see `init_spec`). -/
theorem init_panics_iff {ic : InitChoice} (hwf : D.WF K) (hadm : InitAdm D P ic) :
    (∃ e, init (K := K) D P ic = .error e) ↔ D.wraps.any (· < P.w) = true :=
  (init_spec hwf hadm).error_iff

/-! ### one step, in both modes -/

theorem inv_step {s s' : State K} {c : Choice} {it : Iteration K} (hwf : D.WF K)
    (hinv : Inv D P.w s) (hadm : Adm D P s c) (h : next D P s c = .ok (some (s', it))) :
    Inv D P.w s' := (next_of_ok hwf hinv hadm h).inv

/-- What a step yields: `Iteration.counts` is the count matrix of the alignment *without* the
    held-out sequence (and its sequence count the number of the other active sequences); the new
    state differs from the old alignment only at `z`. -/
theorem iteration_counts {s s' : State K} {c : Choice} {it : Iteration K} (hwf : D.WF K)
    (hinv : Inv D P.w s) (hadm : Adm D P s c) (h : next D P s c = .ok (some (s', it))) :
    it.z = c.z ∧ it.step = s.step ∧
    (∀ j, j < P.w → ∀ cc, cc < K →
      it.counts.get j cc = alignMotif D (st s) (without (act s) c.z) j cc) ∧
    it.n = alignCount D (without (act s) c.z) ∧
    act s' = actAfter P (act s) c ∧ st s' = stAfter (st s) c ∧ s'.step = s.step + 1 := by
  have e := next_of_ok hwf hinv hadm h
  exact ⟨e.z_eq, e.itStep_eq, e.counts_eq, e.n_eq, e.act_eq, e.st_eq, e.step_eq⟩

/-- When `WeightedIndex::new` fails the start is left unchanged: the step with `start = none` *is*
    the step that draws the old start again (so observing the start after the step determines the
    choice, which is how the correspondence run feeds the model). -/
theorem start_none_is_old_start (s : State K) (z : Nat) (d : Bool) :
    next D P s ⟨z, none, d⟩ = next D P s ⟨z, some (st s z), d⟩ := next_none_eq D P s z d

/-! ### panics -/

/-- A step panics exactly when nothing remains outside the windows once `z` is held out
    (`Background::from_counts(..).unwrap()` in `prepare_pssm`); no other panic site — index,
    `u32`/`usize` underflow, empty seed list — is reachable from a state satisfying the invariant. -/
theorem step_panics_iff {s : State K} {c : Choice} (hwf : D.WF K) (hinv : Inv D P.w s)
    (hadm : Adm D P s c) (hnc : s.converged = false) :
    (∃ e, next D P s c = .error e) ↔ NothingLeft D P.w s c.z := by
  rcases (next_spec hwf hinv hadm hnc).2 with ⟨hn, he⟩ | ⟨hn, s2, it2, hs2, _⟩
  · exact ⟨fun _ => hn, fun _ => ⟨_, he⟩⟩
  · constructor
    · intro ⟨e, he⟩; rw [hs2] at he; cases he
    · intro h; exact absurd h hn

/-- With every sequence longer than the width, "nothing left" means: no sequence other than `z`
    is active.  (The proof does not use `hinv`: `NothingLeft` speaks of the alignment, not of the
    stored counts.) -/
theorem nothingLeft_iff {s : State K} {z : Nat} (hwf : D.WF K) (hL : Longer D P.w)
    (hinv : Inv D P.w s) :
    NothingLeft D P.w s z ↔ ∀ i, i < D.n → i ≠ z → act s i = false := by
  unfold NothingLeft alignBg
  constructor
  · intro h i hi hiz
    cases ha : act s i with
    | false => rfl
    | true =>
      exfalso
      obtain ⟨k, hk, hpos⟩ := outCount_pos (D.seq i) (st s i) P.w (hL i hi)
      have hc := hwf.sym i hi k hk
      have h0 := h _ hc
      rw [sumTo_eq_zero] at h0
      have := h0 i hi
      have hw : without (act s) z i = true := by unfold without; rw [if_neg hiz]; exact ha
      rw [if_pos hw] at this
      exact Nat.ne_of_gt hpos this
  · intro h c _
    rw [sumTo_eq_zero]
    intro i hi
    have : without (act s) z i = false := by
      unfold without
      by_cases e : i = z
      · rw [if_pos e]
      · rw [if_neg e]; exact h i hi e
    rw [this]; rfl

/-- With two active sequences a step never panics, and two sequences stay active (a previously
    active sequence is never dropped). -/
theorem two_active_step {s : State K} {c : Choice} (hwf : D.WF K) (hL : Longer D P.w)
    (hinv : Inv D P.w s) (hadm : Adm D P s c) (h2 : TwoActive D s) :
    (∀ e, next D P s c ≠ .error e) ∧
    ∀ s' it, next D P s c = .ok (some (s', it)) → TwoActive D s' := by
  obtain ⟨i, j, hi, hj, hij, hai, haj⟩ := h2
  constructor
  · intro e he
    have hc := not_converged_of_next (by rw [he]; exact fun e => nomatch e)
    have h := (nothingLeft_iff hwf hL hinv).mp ((step_panics_iff hwf hinv hadm hc).mp ⟨e, he⟩)
    by_cases hiz : i = c.z
    · have := h j hj (fun x => hij (hiz.trans x.symm)); rw [haj] at this; cases this
    · have := h i hi hiz; rw [hai] at this; cases this
  · intro s' it hn
    have keep : ∀ k, act s k = true → act s' k = true := fun k hk => by
      rw [(next_of_ok hwf hinv hadm hn).act_eq]; exact actAfter_of_active c hk
    exact ⟨i, j, hi, hj, hij, keep i hai, keep j haj⟩

/-! ### whole runs: every seed, every run length -/

/-- what the property demands of one step `s → (s', it)`: the new state equals the recomputation
    from its alignment, and the iteration reports the previous alignment without `it.z` -/
def StepOK (D : Data) (P : Params) (s s' : State K) (it : Iteration K) : Prop :=
  Inv D P.w s' ∧
  (∀ j, j < P.w → ∀ cc, cc < K →
    it.counts.get j cc = alignMotif D (st s) (without (act s) it.z) j cc) ∧
  it.n = alignCount D (without (act s) it.z)

def TraceOK (D : Data) (P : Params) : State K → List (State K × Iteration K) → Prop
  | _, [] => True
  | s, x :: rest => StepOK D P s x.1 x.2 ∧ TraceOK D P x.1 rest

/-- Every step of every run satisfies the property: state = recomputation from the alignment, and
    `Iteration.counts` = counts of the alignment without the held-out sequence. -/
theorem trace_ok (hwf : D.WF K) : ∀ (cs : List Choice) (s : State K), Inv D P.w s →
    AdmRun D P s cs → TraceOK D P s (run D P s cs).1 := by
  intro cs s
  fun_induction run D P s cs with
  | case1 | case2 | case3 => intros; trivial
  | case4 s c cs s' it hn tr stop hr ih =>
    intro hinv ⟨ha, hrest⟩
    have e := next_of_ok hwf hinv ha hn
    rw [hr] at ih
    exact ⟨⟨e.inv, e.z_eq ▸ e.counts_eq, e.z_eq ▸ e.n_eq⟩, ih e.inv (hrest s' it hn)⟩

theorem inv_of_traceOK (tr : List (State K × Iteration K)) : ∀ s : State K, TraceOK D P s tr →
    ∀ x, x ∈ tr → Inv D P.w x.1 := by
  induction tr with
  | nil => intro _ _ x hx; cases hx
  | cons y tr ih =>
    intro s ⟨hy, htr⟩ x hx
    rcases List.mem_cons.mp hx with rfl | hx
    · exact hy.1
    · exact ih y.1 htr x hx

/-- The invariant holds after every step of every run. -/
theorem inv_run (hwf : D.WF K) : ∀ (cs : List Choice) (s : State K), Inv D P.w s → AdmRun D P s cs →
    ∀ x, x ∈ (run D P s cs).1 → Inv D P.w x.1 :=
  fun cs s hinv hadm => inv_of_traceOK _ s (trace_ok hwf cs s hinv hadm)

/-- A run in which two sequences are active never panics (Oops with at least two sequences; Zoops
    with at least two seeds): it stops only at the end of the choice stream or at convergence. -/
theorem run_never_panics (hwf : D.WF K) (hL : Longer D P.w) : ∀ (cs : List Choice) (s : State K),
    Inv D P.w s → TwoActive D s → AdmRun D P s cs → ∀ e, (run D P s cs).2 ≠ .panic e := by
  intro cs s
  fun_induction run D P s cs with
  | case1 | case3 => intros; simp
  | case2 s c cs e hn =>
    intro hinv h2 ⟨ha, _⟩
    exact absurd hn ((two_active_step hwf hL hinv ha h2).1 e)
  | case4 s c cs s' it hn tr stop hr ih =>
    intro hinv h2 ⟨ha, hrest⟩
    rw [hr] at ih
    exact ih (inv_step hwf hinv ha hn) ((two_active_step hwf hL hinv ha h2).2 s' it hn) (hrest s' it hn)

/-! ### determinism -/

/-- the whole observable trace of a sampler: the state after `_new`, then `run` -/
def trace (D : Data) (P : Params) (ic : InitChoice) (cs : List Choice) :
    R (State K × List (State K × Iteration K) × Stop) :=
  match init D P ic with
  | .error e => .error e
  | .ok s => .ok (s, run D P s cs)

/-- The trace is a function of (data, parameters, choice stream): two runs that make the same
    draws produce identical traces.  This holds of `trace` because it is a function (the proof is
    congruence); that the model has no state besides its arguments is by construction, not by this
    theorem. -/
theorem trace_deterministic (D D' : Data) (P P' : Params) (ic ic' : InitChoice)
    (cs cs' : List Choice) (hD : D = D') (hP : P = P') (hic : ic = ic') (hcs : cs = cs') :
    trace (K := K) D P ic cs = trace D' P' ic' cs' := by
  subst hD; subst hP; subst hic; subst hcs; rfl

/-- … and step `k` depends on the first `k` choices only: extending the choice stream extends
    the trace. -/
theorem run_prefix : ∀ (cs ds : List Choice) (s : State K),
    (run D P s cs).1 <+: (run D P s (cs ++ ds)).1 := by
  intro cs ds s
  fun_induction run D P s cs with
  | case1 | case2 | case3 => exact List.nil_prefix
  | case4 s c cs s' it hn tr stop hr ih =>
    rw [hr] at ih
    simp only [List.cons_append, run, hn]
    exact (List.prefix_cons_inj _).mpr ih

/-! ### the property in the words of the public API, for whole programs -/

/-- Every state of every run reports an alignment (`active_sequences`, `active_starts`) from which
    its count matrix and its background counts are recomputed exactly, with every window inside
    its sequence. -/
theorem reported_run (hwf : D.WF K) (cs : List Choice) (s : State K) (hinv : Inv D P.w s)
    (hadm : AdmRun D P s cs) : ∀ x, x ∈ (run D P s cs).1 → Reported D P.w x.1 :=
  fun x hx => reported_of_inv (inv_run hwf cs s hinv hadm x hx)

/-- The whole sampler, from `SamplerData::new` on: for every dataset over the alphabet (striped in
    `C > 0` columns), all parameters, all admissible draws in `_new` and all admissible choice
    streams, the state after `_new` and after every step equals the recomputation from the
    alignment it reports, and every iteration reports the alignment without its held-out sequence. -/
theorem sampler_correct (C : Nat) (seqs : Array (Array Nat)) (wraps : Array Nat) (P : Params)
    (ic : InitChoice) (cs : List Choice) (hC : 0 < C)
    (hsym : ∀ i, i < seqs.size → ∀ k, k < (seqs.getD i #[]).size → (seqs.getD i #[]).getD k 0 < K) :
    ∃ D, mkData K C seqs wraps = .ok D ∧ D.seqs = seqs ∧
      (InitAdm D P ic → ∀ s0 : State K, init D P ic = .ok s0 → AdmRun D P s0 cs →
        Reported D P.w s0 ∧ TraceOK D P s0 (run D P s0 cs).1 ∧
        ∀ x, x ∈ (run D P s0 cs).1 → Reported D P.w x.1) := by
  obtain ⟨D, h1, h2, _, hwf⟩ := mkData_wf K C seqs wraps hC hsym
  refine ⟨D, h1, h2, ?_⟩
  intro hadm s0 hs0 hrun
  have hinv := inv_init hwf hadm hs0
  exact ⟨reported_of_inv hinv, trace_ok hwf cs s0 hinv hrun, reported_run hwf cs s0 hinv hrun⟩

/-- Oops mode with at least two sequences, all longer than the width: the run never panics.
    (Zoops mode: the same from any state with two active sequences, `run_never_panics`.) -/
theorem oops_never_panics {ic : InitChoice} {s0 : State K} (hwf : D.WF K) (hL : Longer D P.w)
    (hoops : P.zoops = false) (hn : 2 ≤ D.n) (hadm : InitAdm D P ic) (hs0 : init D P ic = .ok s0)
    (cs : List Choice) (hrun : AdmRun D P s0 cs) : ∀ e, (run D P s0 cs).2 ≠ .panic e := by
  have hb := (init_spec hwf hadm).of_ok hs0
  have h0 : 0 < D.n := Nat.zero_lt_of_lt hn
  exact run_never_panics hwf hL cs s0 hb.inv
    ⟨0, 1, h0, hn, Nat.zero_ne_one, hb.oops hoops 0 h0, hb.oops hoops 1 hn⟩ hrun

/-- Zoops mode with at least two (distinct) seeds. -/
theorem zoops_never_panics {ic : InitChoice} {s0 : State K} (hwf : D.WF K) (hL : Longer D P.w)
    (hz : P.zoops = true) (hseeds : 2 ≤ min P.initial D.n) (hadm : InitAdm D P ic)
    (hs0 : init D P ic = .ok s0) (cs : List Choice) (hrun : AdmRun D P s0 cs) :
    ∀ e, (run D P s0 cs).2 ≠ .panic e := by
  have hb := (init_spec hwf hadm).of_ok hs0
  obtain ⟨hlt, hnd, hlen⟩ := hadm.2.2 hz
  have h1 : 1 < ic.seeds.length := Nat.lt_of_lt_of_eq hseeds hlen.symm
  have h0 : 0 < ic.seeds.length := Nat.zero_lt_of_lt h1
  exact run_never_panics hwf hL cs s0 hb.inv
    ⟨ic.seeds[0], ic.seeds[1], hlt _ (List.getElem_mem h0), hlt _ (List.getElem_mem h1),
      List.pairwise_iff_getElem.mp hnd 0 1 h0 h1 Nat.zero_lt_one,
      hb.zoops hz _ (List.getElem_mem h0), hb.zoops hz _ (List.getElem_mem h1)⟩ hrun

/-! ### non-vacuity: the hypotheses are satisfiable and the conclusions are about real runs -/

def admRunB (D : Data) (P : Params) : State K → List Choice → Bool
  | _, [] => true
  | s, c :: cs =>
    decide (Adm D P s c) &&
      (match next D P s c with
       | .ok (some (s', _)) => admRunB D P s' cs
       | _ => true)

theorem admRun_of_admRunB : ∀ (cs : List Choice) (s : State K), admRunB D P s cs = true → AdmRun D P s cs := by
  intro cs s
  fun_induction admRunB D P s cs with
  | case1 => exact fun _ => trivial
  | case2 s c cs ih =>
    intro h
    rw [Bool.and_eq_true] at h
    refine ⟨of_decide_eq_true h.1, fun s' it hn => ih s' ?_⟩
    have h2 := h.2
    rw [hn] at h2
    exact h2

/-- three DNA sequences (`A C T G N` = `0 1 2 3 4`), all longer than the width 3 -/
def exData : Data :=
  ⟨#[#[0,1,2,3,0,1], #[1,1,2,0,4], #[3,2,1,0,0,2,1]],
   #[#[2,2,1,1,0], #[1,2,1,0,1], #[2,2,2,1,0]], #[3,3,3]⟩
def exOops : Params := { w := 3, zoops := false, initial := 0, inertia := 0, patience := 0 }
def exZoops : Params := { w := 3, zoops := true, initial := 2, inertia := 1, patience := 3 }
def exIc : InitChoice := { starts := #[1, 0, 4], seeds := [] }
def exIcZ : InitChoice := { starts := #[1, 0, 4], seeds := [2, 0] }
/-- hold out 1 and move it, hold out 0 with a failed `WeightedIndex::new`, hold out 2 and move it -/
def exChoices : List Choice := [⟨1, some 2, false⟩, ⟨0, none, false⟩, ⟨2, some 0, false⟩]
/-- Zoops: hold out the seed 2 and move it; hold out the inactive sequence 1, which is recruited
    (`discard = false`); hold out 1 again and move it; hold out the seed 0 with a failed
    `WeightedIndex::new` -/
def exChoicesZ : List Choice := [⟨2, some 3, false⟩, ⟨1, some 1, false⟩, ⟨1, some 0, false⟩, ⟨0, none, false⟩]

/-- the cached counts of `exData` are what `SamplerData::new` computes (4 columns) -/
example : (mkData 5 4 exData.seqs exData.wraps).toOption.map (·.counts) = some exData.counts := by
  decide +kernel

theorem exData_wf : exData.WF 5 := by
  constructor
  · decide +kernel
  · decide +kernel
  · decide +kernel
  · decide +kernel

example : Longer exData exOops.w := by unfold Longer; decide +kernel
example : InitAdm exData exOops exIc := by decide +kernel
example : InitAdm exData exZoops exIcZ := by decide +kernel

/-- one Boolean that evaluates a whole run of the model -/
def exCheck (P : Params) (ic : InitChoice) (cs : List Choice) (starts : List (List Nat))
    (actives : List (List Nat)) : Bool :=
  match init (K := 5) exData P ic with
  | .error _ => false
  | .ok s0 =>
    admRunB exData P s0 cs && (run exData P s0 cs).1.length == cs.length &&
    ((activeSequences s0).length ≥ 2) &&
    ((run exData P s0 cs).1.map (fun x => x.1.starts.toList) == starts) &&
    ((run exData P s0 cs).1.map (fun x => activeSequences x.1) == actives)

theorem exCheck_sound {P : Params} {ic : InitChoice} {cs : List Choice} {starts actives : List (List Nat)}
    (h : exCheck P ic cs starts actives = true) :
    ∃ s0 : State 5, init exData P ic = .ok s0 ∧ AdmRun exData P s0 cs ∧
      (run exData P s0 cs).1.length = cs.length ∧
      (run exData P s0 cs).1.map (fun x => x.1.starts.toList) = starts ∧
      (run exData P s0 cs).1.map (fun x => activeSequences x.1) = actives := by
  revert h
  fun_cases exCheck P ic cs starts actives with
  | case1 _ _ => exact nofun
  | case2 s0 hi =>
    intro h
    simp only [Bool.and_eq_true, beq_iff_eq, decide_eq_true_eq] at h
    obtain ⟨⟨⟨⟨h1, h2⟩, -⟩, h4⟩, h5⟩ := h
    exact ⟨s0, hi, admRun_of_admRunB _ _ h1, h2, h4, h5⟩

/-- Oops: the hypotheses of `inv_init`, `inv_run`, `trace_ok`, `oops_never_panics` hold of a run of
    three steps in which two starts change (and one `WeightedIndex::new` fails) -/
example : ∃ s0 : State 5, init exData exOops exIc = .ok s0 ∧ AdmRun exData exOops s0 exChoices ∧
    (run exData exOops s0 exChoices).1.length = 3 ∧
    (run exData exOops s0 exChoices).1.map (fun x => x.1.starts.toList) =
      [[1, 2, 4], [1, 2, 4], [1, 2, 0]] ∧
    (run exData exOops s0 exChoices).1.map (fun x => activeSequences x.1) =
      [[0, 1, 2], [0, 1, 2], [0, 1, 2]] :=
  exCheck_sound (by decide +kernel)

/-- Zoops with two seeds: sequence 1 is recruited at the second step; the hypotheses of
    `zoops_never_panics` hold -/
example : ∃ s0 : State 5, init exData exZoops exIcZ = .ok s0 ∧ AdmRun exData exZoops s0 exChoicesZ ∧
    (run exData exZoops s0 exChoicesZ).1.length = 4 ∧
    (run exData exZoops s0 exChoicesZ).1.map (fun x => x.1.starts.toList) =
      [[1, 0, 3], [1, 1, 3], [1, 0, 3], [1, 0, 3]] ∧
    (run exData exZoops s0 exChoicesZ).1.map (fun x => activeSequences x.1) =
      [[0, 2], [0, 1, 2], [0, 1, 2], [0, 1, 2]] :=
  exCheck_sound (by decide +kernel)

/-- the excluded point: a single Oops sequence — the step panics, exactly as `step_panics_iff` and
    `nothingLeft_iff` say (nothing is left once the only sequence is held out) -/
example : (match init (K := 5) ⟨#[#[0,1,2,3]], #[#[1,1,1,1,0]], #[3]⟩ exOops ⟨#[0], []⟩ with
    | .ok s0 => (run ⟨#[#[0,1,2,3]], #[#[1,1,1,1,0]], #[3]⟩ exOops s0 [⟨0, none, false⟩]).2
    | .error e => .panic e) = .panic "background-empty" := by decide +kernel

end C16
end LMV
