/-
  C04 (2) — the AVX2 striping kernel, and with it every dispatcher arm, equals generic striping;
  hence the invariant of Props/C04.lean holds after every op history with any mix of backends.
  (Apart from Props/C04.lean so that what rests on the invariant alone does not import the
  evaluation of the transpose table.)
-/
import LMV.Props.C04
import LMV.Lemmas.StripeAvx2

namespace LMV
namespace C04

open Striped
open StripeAvx2

/-- the AVX2 kernel establishes the invariant, whatever the buffer held before and whatever the
    bytes loaded past the end of the symbol buffer are -/
theorem stripeAvx2_inv (N : Nat) (junk : Nat → Nat) (s : List Nat) (old : Striped 32) :
    Inv N (StripeAvx2.stripe N junk s old) s := by
  have hC : 0 < 32 := by decide
  fun_cases StripeAvx2.stripe N junk s old with
  | case1 _ hL =>
    -- early return: the buffer was taken and never put back = the default (empty) striped sequence
    obtain rfl := List.eq_nil_of_length_eq_zero hL
    exact empty_inv hC N
  | case2 L R d0 hL arr i0 d1 he d2 d3 =>
    -- `R` is `seqRowsOf 32 L` by `rfl`; `d0` is the resized buffer, `d1` the matrix after the block loop,
    -- which stops at row `i0`, `d2` after the scalar tail, `d3` after the fill loop
    have hRpos : 0 < R := seqRowsOf_pos hC (Nat.pos_of_ne_zero hL)
    have hge : L ≤ 32 * R := Nat.mul_comm .. ▸ seqRowsOf_mul_ge hC L
    have hblocks := (blockLoop_spec junk arr R R 0 d0 he).2
    have htail : Mat.Patch d1 d2 _ _ := tail_patch N arr R i0 L d1
    have hfill : Mat.Patch d2 d3 _ _ := writeCells_patch R hRpos (fun _ => N) L (32 * R - L) d2
    refine ⟨rfl, (hfill.rows.trans (htail.rows.trans hblocks.rows)).trans (Mat.rows_resize ..),
      fun r c (hr : r < R) hc => ?_⟩
    show d3.get r c = pad N s (c * R + r)
    have hr1 : r < d0.rows := Nat.lt_of_lt_of_eq hr (Mat.rows_resize ..).symm
    have hp : c * R + r < 32 * R := pos_lt hc hr
    rcases Nat.lt_or_ge (c * R + r) s.length with hlt | hle
    · -- a real symbol: written either by a transposed block or by the scalar tail
      refine (hfill.miss r c (fun h => Nat.not_le_of_lt hlt h.2.1) _).trans ?_
      rcases Nat.lt_or_ge r i0 with hblk | hblk
      · refine (htail.miss r c (fun h => Nat.not_le_of_lt hblk h.1) _).trans
          ((hblocks.hit r c hr1 hc ⟨Nat.zero_le r, hblk⟩ _).trans ?_)
        -- the loads default to `0`, `pad` to `N`: inside the sequence neither default is read
        simp only [srcVal, arr, List.size_toArray, hlt, if_true, toArray_getD]
        exact (pad_of_lt 0 s _ hlt).trans (pad_of_lt N s _ hlt).symm
      · exact (htail.hit r c (Nat.lt_of_lt_of_eq hr1 hblocks.rows.symm) hc ⟨hblk, hr, hlt⟩ _).trans
          (toArray_getD ..)
    · -- past the end: the fill loop writes the wildcard, whatever the blocks loaded there
      exact (hfill.hit r c (by rw [htail.rows, hblocks.rows]; exact hr1) hc
        ⟨hr, hle, by rwa [Nat.add_sub_cancel' hge]⟩ _).trans (pad_of_le _ _ _ hle).symm

/-- **C04, backend independence**: for every sequence, every previous content of the buffer and
    EVERY value of the bytes the kernel loads past the end of the symbol buffer, the AVX2 kernel
    produces exactly the striped sequence the generic loop produces. -/
theorem stripeAvx2_eq_generic (N : Nat) (junk : Nat → Nat) (s : List Nat) (old : Striped 32) :
    StripeAvx2.stripe N junk s old = stripeGeneric N s old := by
  refine (stripeAvx2_inv N junk s old).unique (stripeGeneric_inv (by decide) N s old) ?_
  unfold StripeAvx2.stripe
  exact (apply_ite Striped.wrap _ _ _).trans (ite_self _)

theorem dispatch_eq_generic (N : Nat) (junk : Nat → Nat) (arm : StripeAvx2.Arm) (s : List Nat)
    (old : Striped 32) : StripeAvx2.dispatch N junk arm s old = stripeGeneric N s old := by
  cases arm <;> simp [StripeAvx2.dispatch, stripeAvx2_eq_generic]

/-- operations on a 32-column buffer, with the striping backend chosen per call -/
inductive StripeOp32
  | stripeGeneric (s : List Nat)
  | stripeAvx2 (junk : Nat → Nat) (s : List Nat)
  | stripeDispatch (arm : StripeAvx2.Arm) (junk : Nat → Nat) (s : List Nat)
  | configureWrap (m : Nat)
  | configure (motifLen : Nat)

def StripeOp32.apply (N : Nat) : StripeOp32 → Striped 32 × List Nat → Striped 32 × List Nat
  | .stripeGeneric s', (st, _) => (Striped.stripeGeneric N s' st, s')
  | .stripeAvx2 junk s', (st, _) => (StripeAvx2.stripe N junk s' st, s')
  | .stripeDispatch arm junk s', (st, _) => (StripeAvx2.dispatch N junk arm s' st, s')
  | .configureWrap m, (st, s) => (Striped.configureWrap N m st, s)
  | .configure M, (st, s) => (Striped.configure N M st, s)

/-- forgetting which backend striped -/
def StripeOp32.erase : StripeOp32 → StripeOp
  | .stripeGeneric s | .stripeAvx2 _ s | .stripeDispatch _ _ s => .stripeInto s
  | .configureWrap m => .configureWrap m
  | .configure M => .configure M

/-- **C04, histories × backends**: any sequence of operations on one 32-column buffer, each
    striping done by any backend or dispatcher arm, leaves exactly the buffer the generic backend
    would leave — hence the invariant holds after all of them. -/
theorem ops32_eq_generic (N : Nat) (ops : List StripeOp32) (x : Striped 32 × List Nat) :
    ops.foldl (fun x op => op.apply N x) x = (ops.map StripeOp32.erase).foldl (fun x op => op.apply N x) x := by
  rw [List.foldl_map]
  congr 1
  funext ⟨st, s⟩ op
  cases op with
  | stripeAvx2 junk s' => exact congrArg (·, s') (stripeAvx2_eq_generic N junk s' st)
  | stripeDispatch arm junk s' => exact congrArg (·, s') (dispatch_eq_generic N junk arm s' st)
  | _ => rfl

theorem ops32_inv (N : Nat) (ops : List StripeOp32) (st : Striped 32) (s : List Nat) (h : Inv N st s) :
    Inv N (ops.foldl (fun x op => op.apply N x) (st, s)).1
          (ops.foldl (fun x op => op.apply N x) (st, s)).2 := by
  rw [ops32_eq_generic]
  exact ops_inv (by decide) N _ st s h

end C04
end LMV
