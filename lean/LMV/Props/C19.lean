/-
  C19 — Dense matrix storage keeps rows aligned and contents intact across operations.

  Two parts: the layout arithmetic (`rowAddr`, `stride`), and the refinement of every operation
  history to an abstract table (`Tbl`: a row count and a cell function; `specStep`; `abs` is the
  abstraction `Mat → Tbl`).  Equality and forward iteration, which the model lists but gives no
  operation, are `eq_iff_same` and `iter_order`; reverse immutable iteration is not stated.
-/
import LMV.Lemmas.Dense
import LMV.Lemmas.MatLists
import LMV.Lemmas.Patch

namespace LMV
namespace C19

open Dense

/-! ### layout: every row starts on an alignment boundary; the stride covers the columns -/

/-- every row of the matrix starts on an `align`-byte boundary if the buffer does -/
theorem rowAddr_aligned (base C size align i : Nat) (hb : align ∣ base) :
    align ∣ rowAddr base C size align i :=
  Nat.dvd_add hb (Nat.dvd_mul_left_of_dvd (rowBytes_dvd C size align) i)

/-- the stride (in elements) is at least the column count … -/
theorem stride_ge (C size align : Nat) (hs : 0 < size) (ha : 0 < align) :
    C ≤ stride C size align := by
  unfold stride
  exact (Nat.le_div_iff_mul_le hs).mpr (rowBytes_ge C size align ha)

/-- … and a whole number of alignment units (for element sizes dividing the alignment) -/
theorem stride_bytes_aligned (C size align : Nat) (hd : size ∣ align) :
    align ∣ stride C size align * size :=
  stride_mul_size C size align hd ▸ rowBytes_dvd C size align

example : stride 43 1 32 = 64 ∧ stride 5 4 32 = 8 ∧ stride 21 4 32 = 24 ∧ stride 7 8 32 = 8 := by decide

/-! ### refinement: any operation sequence behaves like a rows × columns table -/

/-- the abstract table: a row count and a cell function (only cells with `r < rows`, `c < C` matter) -/
structure Tbl where
  rows : Nat
  cell : Nat → Nat → Nat

/-- two tables are the same `rows × C` table -/
def Tbl.Same (C : Nat) (a b : Tbl) : Prop :=
  a.rows = b.rows ∧ ∀ r c, r < a.rows → c < C → a.cell r c = b.cell r c

variable {C : Nat}

def abs (m : Mat Nat C) : Tbl := ⟨m.rows, m.get⟩

/-- the specification of one operation on the abstract table; `none` = the call panics -/
def specStep (C : Nat) (dflt : Nat) (t : Tbl) : Op → Option Tbl
  | .new rows => some ⟨rows, fun _ _ => dflt⟩
  | .withCapacity rows _ => some ⟨rows, fun _ _ => dflt⟩
  | .resize n => some ⟨n, fun r c => if r < t.rows then t.cell r c else dflt⟩   -- old rows kept, new rows default
  | .cloneFrom rows v => some ⟨rows, fun _ _ => v⟩
  | .fromRows rows =>
    if rows.all (·.length == C) then some ⟨rows.length, fun r c => (rows.getD r []).getD c 0⟩ else none
  | .fill v => some ⟨t.rows, fun _ _ => v⟩
  | .setRow i vals =>
    if i < t.rows ∧ vals.length = C then some ⟨t.rows, fun r c => if r = i then vals.getD c 0 else t.cell r c⟩
    else none
  | .setCell i j v =>
    if i < t.rows ∧ j < C then some ⟨t.rows, fun r c => if r = i ∧ c = j then v else t.cell r c⟩ else none
  | .iterMutSet v =>
    if C = 0 then none else some ⟨t.rows, fun r c => if c = 0 then v + r % 2 else t.cell r c⟩
  | .iterMutRevSet v =>
    if C = 0 then none else some ⟨t.rows, fun r c => if c = 0 then v + (t.rows - 1 - r) % 2 else t.cell r c⟩
  | .clone => some t

open Mat (Patch)

theorem writeRow_patch (m : Mat Nat C) (i : Nat) (vals : List Nat) :
    Patch m (writeRow m i vals) (fun r _ => r = i) (fun _ c => vals.getD c 0) :=
  Patch.row m i _ fun _ _ => rfl

/-- `for (k, row) in m.iter_mut().enumerate() { row[0] = v + k % 2 }` -/
theorem colZero_patch (v : Nat) (m : Mat Nat C) :
    Patch m ((List.range m.rows).foldl (fun d k => d.set k 0 (v + k % 2)) m) (fun _ c => c = 0)
      (fun r _ => v + r % 2) :=
  Patch.range _ (fun k r c => r = k ∧ c = 0) m m.rows (fun k _ d _ => Patch.set d k 0 _ rfl)
    fun r _ hr _ => ⟨fun h => ⟨r, hr, rfl, h⟩, by rintro ⟨_, _, _, h⟩; exact h⟩

/-- the reverse mutable pass visits the last row first -/
theorem colZeroRev_patch (v : Nat) (m : Mat Nat C) :
    Patch m ((List.range m.rows).foldl (fun d k => d.set (m.rows - 1 - k) 0 (v + k % 2)) m)
      (fun _ c => c = 0) (fun r _ => v + (m.rows - 1 - r) % 2) :=
  Patch.range _ (fun k r c => r = m.rows - 1 - k ∧ c = 0) m m.rows
    (fun k hk d _ => Patch.set d _ 0 _ (by rw [Nat.sub_sub_self (Nat.le_sub_one_of_lt hk)]))
    fun r _ hr _ => ⟨fun h => ⟨m.rows - 1 - r, Nat.sub_one_sub_lt hr,
      (Nat.sub_sub_self (Nat.le_sub_one_of_lt hr)).symm, h⟩, by rintro ⟨_, _, _, h⟩; exact h⟩

theorem same_of_get {m' : Mat Nat C} {t' : Tbl} (hr : m'.rows = t'.rows)
    (hg : ∀ r c, r < t'.rows → c < C → m'.get r c = t'.cell r c) : Tbl.Same C (abs m') t' :=
  ⟨hr, fun r c h hc => hg r c (hr ▸ h) hc⟩

theorem same_patch {m m' : Mat Nat C} {t : Tbl} {S : Nat → Nat → Prop} [∀ r c, Decidable (S r c)]
    {v : Nat → Nat → Nat} (h : Tbl.Same C (abs m) t) (hp : Patch m m' S v) :
    Tbl.Same C (abs m') ⟨t.rows, fun r c => if S r c then v r c else t.cell r c⟩ := by
  refine same_of_get (hp.rows.trans h.1) fun r c hr hc => ?_
  have hr' : r < m.rows := Nat.lt_of_lt_of_eq hr h.1.symm
  show m'.get r c = if S r c then v r c else t.cell r c
  split
  · next hs => exact hp.hit r c hr' hc hs _
  · next hs => exact (hp.miss r c hs _).trans (h.2 r c hr' hc)

/-- the outcome of an operation against the specified one: the same table, or a panic on both sides -/
def Refines (x : Except String (Mat Nat C)) (y : Option Tbl) : Prop :=
  match x, y with
  | .ok m', some t' => Tbl.Same C (abs m') t'
  | .error _, none => True
  | _, _ => False

theorem Refines.ite {p : Prop} [Decidable p] {x x' : Except String (Mat Nat C)} {y y' : Option Tbl}
    (h : p → Refines x y) (h' : ¬p → Refines x' y') :
    Refines (if p then x else x') (if p then y else y') := by
  by_cases hp : p
  · rw [if_pos hp, if_pos hp]; exact h hp
  · rw [if_neg hp, if_neg hp]; exact h' hp

/-- one step, started from any table the matrix holds (so that the refinement composes along a
    history) -/
theorem step_refines_of_same (dflt : Nat) (m : Mat Nat C) (t : Tbl) (h : Tbl.Same C (abs m) t) (op : Op) :
    Refines (step dflt m op) (specStep C dflt t op) := by
  obtain ⟨n, cell⟩ := t
  obtain rfl : m.rows = n := h.1
  cases op with
  | new rows | withCapacity rows _ =>
    exact same_of_get (Mat.rows_resize ..) fun r c (hr : r < rows) hc => by
      rw [Mat.get_resize, if_pos hr, Mat.rows_empty, if_neg (Nat.not_lt_zero r), if_pos hc]
  | resize n =>
    refine same_of_get (Mat.rows_resize ..) fun r c (hr : r < n) hc => ?_
    rw [Mat.get_resize, if_pos hr]
    exact ite_congr rfl (fun h1 => h.2 r c h1 hc) fun _ => if_pos hc
  | fromRows rows =>
    exact .ite (fun _ => same_of_get (Mat.rows_ofFn ..) fun r c (hr : r < rows.length) hc => by
      rw [Mat.get_ofFn, if_pos ⟨hr, hc⟩]) fun _ => trivial
  | fill v =>
    exact same_of_get (Mat.rows_fill ..) fun r c (hr : r < m.rows) hc => by
      rw [Mat.get_fill, if_pos ⟨hr, hc⟩]
  | cloneFrom rows v =>
    exact same_of_get ((Mat.rows_fill ..).trans (Mat.rows_resize ..)) fun r c (hr : r < rows) hc => by
      rw [Mat.get_fill, Mat.rows_resize, if_pos ⟨hr, hc⟩]
  | setRow i vals =>
    -- the nested guards of the code against the one conjunction of the specification
    by_cases h1 : i < m.rows
    · simp only [step.eq_def, specStep.eq_def, h1, if_true, true_and]
      exact .ite (fun _ => same_patch h (writeRow_patch m i vals)) fun _ => trivial
    · simp only [step.eq_def, specStep.eq_def, h1, if_false, false_and]
      exact trivial
  | setCell i j v =>
    exact .ite (fun _ => same_patch (v := fun _ _ => v) h (Patch.set m i j v rfl)) fun _ => trivial
  | iterMutSet v => exact .ite (fun _ => trivial) fun _ => same_patch h (colZero_patch v m)
  | iterMutRevSet v => exact .ite (fun _ => trivial) fun _ => same_patch h (colZeroRev_patch v m)
  | clone => exact h

/-- **C19, one step**: the concrete operation panics exactly when the specification says so, and
    otherwise yields the same table — row count as requested, rows that existed keep their contents,
    new rows hold the default value, writes land in the addressed cell only. -/
theorem step_refines (dflt : Nat) (m : Mat Nat C) (op : Op) :
    match step dflt m op, specStep C dflt (abs m) op with
    | .ok m', some t' => Tbl.Same C (abs m') t'
    | .error _, none => True
    | _, _ => False :=
  step_refines_of_same dflt m (abs m) ⟨rfl, fun _ _ _ _ => rfl⟩ op

/-- run the specification along an operation list (a panicking operation changes nothing) -/
def specRun (C : Nat) (dflt : Nat) (t : Tbl) : List Op → Tbl
  | [] => t
  | op :: ops => match specStep C dflt t op with
    | some t' => specRun C dflt t' ops
    | none => specRun C dflt t ops

/-- **C19, histories**: after ANY finite sequence of creations, resizes, fills, row and cell
    writes, iter_mut passes and clones (panicking calls included), the matrix is the table the
    specification prescribes. -/
theorem run_refines (dflt : Nat) (ops : List Op) (m : Mat Nat C) (t : Tbl) (h : Tbl.Same C (abs m) t) :
    Tbl.Same C (abs (run dflt m ops)) (specRun C dflt t ops) := by
  induction ops generalizing m t with
  | nil => exact h
  | cons op ops ih =>
    have h1 := step_refines_of_same dflt m t h op
    unfold Refines at h1
    simp only [run, specRun]
    split at h1
    · next m' t' hs ht => simp only [hs, ht]; exact ih m' t' h1
    · next hs ht => simp only [hs, ht]; exact ih m t h
    · exact h1.elim

/-- equality depends only on the logical cells (the model stores nothing else: this is `Mat.ext`
    in the vocabulary of the refinement) -/
theorem eq_iff_same (a b : Mat Nat C) : a = b ↔ Tbl.Same C (abs a) (abs b) := by
  constructor
  · rintro rfl; exact ⟨rfl, fun _ _ _ _ => rfl⟩
  · rintro ⟨h1, h2⟩; exact Mat.ext h1 h2

/-- forward iteration visits exactly rows `0 … rows-1` in order -/
theorem iter_order (m : Mat Nat C) :
    m.toLists = (List.range m.rows).map fun r => (List.range C).map fun c => m.get r c :=
  Mat.toLists_eq_get m

example : (run 0 (Mat.empty : Mat Nat 5) [.new 3, .setCell 1 2 7, .resize 5, .setCell 9 0 1, .resize 2]).toLists
    = [[0, 0, 0, 0, 0], [0, 0, 7, 0, 0]] := by decide

end C19
end LMV
