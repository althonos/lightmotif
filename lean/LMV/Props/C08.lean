/-
  C08 — 8-bit discretised scores never under-estimate the real score.

  Exact instance (`ERat` = rationals with `−∞`): for every scoring matrix whose non-wildcard entries
  are finite (the wildcard column may be `−∞` or finite), with `factor > 0`, and every window of
  symbols, the SATURATING sum of the discretised cells is at least `scale (Σ xⱼ)`; `scale` is
  monotone; hence no position meeting a threshold is lost by the 8-bit pre-filter.  The statement
  is false for a wrapping or overflow-checked accumulation (counterexamples below: the code before
  `fix: saturating accumulation of 8-bit scores`), true for them whenever the cells of the window
  add up to at most 255.
-/
import LMV.Lemmas.U8Kernels
import LMV.Props.C04
import LMV.Lemmas.Outcome

namespace LMV
namespace C08

open Disc Striped

variable {K : Nat}

/-- the non-wildcard entries of the matrix are finite: `x i a` is entry `(i, a)` -/
def FiniteEntries (p : Mat ERat K) (x : ℕ → ℕ → ℚ) : Prop :=
  ∀ i a, i < p.rows → a < K - 1 → p.get i a = .fin (x i a)

/-- the fold of `rowMin` over rationals -/
def qMin (x : ℕ → ℕ → ℚ) (i n : ℕ) : ℚ :=
  (List.range n).foldl (fun m a => if x i (a + 1) < m then x i (a + 1) else m) (x i 0)

/-- the fold of `rowMax` over rationals -/
def qMax (x : ℕ → ℕ → ℚ) (i n : ℕ) : ℚ :=
  (List.range n).foldl (fun m a => if x i (a + 1) < m then m else x i (a + 1)) (x i 0)

theorem foldl_fin (F : ERat → ERat → ERat) (G : ℚ → ℚ → ℚ)
    (hFG : ∀ a b, F (.fin a) (.fin b) = .fin (G a b)) (y : ℕ → ERat) (x : ℕ → ℚ) (l : List ℕ)
    (hy : ∀ a ∈ l, y a = .fin (x a)) (m : ℚ) :
    l.foldl (fun m a => F m (y a)) (.fin m) = .fin (l.foldl (fun m a => G m (x a)) m) :=
  (List.foldl_ext _ _ _ fun m a ha => by rw [hy a ha]).trans
    (List.foldl_hom ERat.fin fun m a => hFG m (x a))

theorem rowMin_eq {p : Mat ERat K} {x : ℕ → ℕ → ℚ} (h : FiniteEntries p x) (hK : 2 ≤ K)
    (i : ℕ) (hi : i < p.rows) : rowMin p i = .fin (qMin x i (K - 2)) := by
  unfold rowMin qMin
  rw [h i 0 hi (Nat.sub_pos_of_lt hK)]
  exact foldl_fin (fun m y => if ScanScalar.lt y m then y else m) (fun m x => if x < m then x else m)
    (fun a b => by simp only [lt_def, lt_fin, decide_eq_true_eq]; exact (apply_ite ..).symm)
    (fun a => p.get i (a + 1)) (fun a => x i (a + 1)) _
    (fun a ha => h i (a + 1) hi (Nat.add_lt_of_lt_sub (List.mem_range.1 ha))) _

theorem rowMax_eq {p : Mat ERat K} {x : ℕ → ℕ → ℚ} (h : FiniteEntries p x) (hK : 2 ≤ K)
    (i : ℕ) (hi : i < p.rows) : rowMax p i = .fin (qMax x i (K - 2)) := by
  unfold rowMax qMax
  rw [h i 0 hi (Nat.sub_pos_of_lt hK)]
  exact foldl_fin (fun m y => if ScanScalar.lt y m then m else y) (fun m x => if x < m then m else x)
    (fun a b => by simp only [lt_def, lt_fin, decide_eq_true_eq]; exact (apply_ite ..).symm)
    (fun a => p.get i (a + 1)) (fun a => x i (a + 1)) _
    (fun a ha => h i (a + 1) hi (Nat.add_lt_of_lt_sub (List.mem_range.1 ha))) _

theorem sumList_map_fin (l : List ℕ) (g : ℕ → ERat) (v : ℕ → ℚ) (h : ∀ i ∈ l, g i = .fin (v i)) :
    sumList (l.map g) = .fin (l.map v).sum := by
  rw [List.map_congr_left h]
  show (l.map fun i => ERat.fin (v i)).foldl ERat.add (.fin 0) = _
  rw [show (l.map fun i => ERat.fin (v i)) = (l.map v).map ERat.fin from (List.map_map ..).symm,
    foldl_add_fin, zero_add]

/-- `offset`: the sum of `qMin` over the rows -/
def offQ (K : ℕ) (x : ℕ → ℕ → ℚ) (M : ℕ) : ℚ := ((List.range M).map fun i => qMin x i (K - 2)).sum

/-- `factor = (max_score − offset) / 255` -/
def facQ (K : ℕ) (x : ℕ → ℕ → ℚ) (M : ℕ) : ℚ :=
  (((List.range M).map fun i => qMax x i (K - 2)).sum - offQ K x M) / 255

theorem hasNaN_eq_false (p : Mat ERat K) : hasNaN p = false := by
  unfold hasNaN
  simp

/-- no entry of an `ERat` matrix is NaN: `to_discrete` does not panic -/
theorem toDiscrete_ok (p : Mat ERat K) : ∃ dm, toDiscrete p = .ok dm := by
  unfold toDiscrete
  rw [hasNaN_eq_false]
  exact ⟨_, rfl⟩

theorem toDiscrete_facts {p : Mat ERat K} {x : ℕ → ℕ → ℚ} (h : FiniteEntries p x) (hK : 2 ≤ K)
    {dm : Discrete ERat K} (hdm : toDiscrete p = .ok dm) :
    dm.offset = .fin (offQ K x p.rows) ∧
      dm.factor = .fin (facQ K x p.rows) ∧ dm.data.rows = p.rows ∧
      ∀ i j, i < p.rows → j < K → dm.data.get i j =
        ERat.ceilU8 (ERat.div (ERat.sub (p.get i j) (.fin (qMin x i (K - 2)))) (.fin (facQ K x p.rows))) := by
  have hoff : sumList ((List.range p.rows).map (rowMin p)) = .fin (offQ K x p.rows) :=
    sumList_map_fin _ _ _ fun i hi => rowMin_eq h hK i (List.mem_range.mp hi)
  have hmax : maxScore p = .fin (((List.range p.rows).map fun i => qMax x i (K - 2)).sum) :=
    sumList_map_fin _ _ _ fun i hi => rowMax_eq h hK i (List.mem_range.mp hi)
  have hfac : ScanScalar.div (ScanScalar.sub (maxScore p) (sumList ((List.range p.rows).map (rowMin p))))
      (ScanScalar.ofU8 255) = ERat.fin (facQ K x p.rows) := by
    rw [hoff, hmax]
    simp only [sub_def, sub_fin, div_def, ofU8_def, div_fin]
    unfold facQ
    congr 1
  unfold toDiscrete at hdm
  rw [hasNaN_eq_false] at hdm
  cases hdm
  refine ⟨hoff, hfac, by rw [Mat.rows_ofFn], ?_⟩
  intro i j hi hj
  simp only [Mat.get_ofFn, hi, hj, and_self, if_true]
  rw [hfac]
  have hget : ((List.range p.rows).map (rowMin p)).getD i ScanScalar.zero = .fin (qMin x i (K - 2)) := by
    rw [List.getD_eq_getElem?_getD, List.getElem?_map, List.getElem?_range hi]
    exact rowMin_eq h hK i hi
  rw [hget]
  rfl

/-- closed form of `to_discrete` on a matrix with finite non-wildcard entries: it does not panic,
    `offset = Σᵢ qMin`, `factor = (Σᵢ qMax − offset)/255`, and cell `(i, j)` (all `K` columns, the
    wildcard included) is `⌈(entry − qMinᵢ)/factor⌉` cast to `u8` -/
theorem toDiscrete_closed {p : Mat ERat K} {x : ℕ → ℕ → ℚ} (h : FiniteEntries p x) (hK : 2 ≤ K) :
    ∃ dm, toDiscrete p = .ok dm ∧ dm.offset = .fin (offQ K x p.rows) ∧
      dm.factor = .fin (facQ K x p.rows) ∧ dm.data.rows = p.rows ∧
      ∀ i j, i < p.rows → j < K → dm.data.get i j =
        ERat.ceilU8 (ERat.div (ERat.sub (p.get i j) (.fin (qMin x i (K - 2)))) (.fin (facQ K x p.rows))) :=
  let ⟨dm, hdm⟩ := toDiscrete_ok p
  ⟨dm, hdm, toDiscrete_facts h hK hdm⟩

/-! ### the window inequality -/

theorem scoreFn_eq_sumList (p : Mat ERat K) (sym : ℕ → ℕ) :
    scoreFn p sym = sumList ((List.range p.rows).map fun j => p.get j (sym j)) := by
  unfold scoreFn sumList
  rw [List.foldl_map]
  rfl

theorem scoreFn_fin (p : Mat ERat K) (sym : ℕ → ℕ) (v : ℕ → ℚ)
    (hv : ∀ j, j < p.rows → p.get j (sym j) = .fin (v j)) :
    scoreFn p sym = .fin ((List.range p.rows).map v).sum := by
  rw [scoreFn_eq_sumList]
  exact sumList_map_fin _ _ v fun j hj => hv j (List.mem_range.mp hj)

theorem scoreFn_bot (p : Mat ERat K) (sym : ℕ → ℕ) (j : ℕ) (hj : j < p.rows)
    (hb : p.get j (sym j) = .bot) : scoreFn p sym = .bot := by
  rw [scoreFn_eq_sumList]
  exact foldl_add_of_bot_mem _ _ (List.mem_map.mpr ⟨j, List.mem_range.mpr hj, hb⟩)

theorem sum_map_sub_div (l : List ℕ) (v m : ℕ → ℚ) (f : ℚ) :
    (l.map fun j => (v j - m j) / f).sum = ((l.map v).sum - (l.map m).sum) / f := by
  induction l with
  | nil => simp
  | cons a t ih => simp only [List.map_cons, List.sum_cons, ih, add_sub_add_comm, add_div]

/-- the property at one window: the 8-bit accumulation does not panic, and its value `v` is at
    least the 8-bit image `scale (score)` of the real score -/
def Holds (mode : AddMode) (p : Mat ERat K) (dm : Discrete ERat K) (sym : ℕ → ℕ) : Prop :=
  ∃ v, dscoreFn mode dm.data sym = .ok v ∧ dm.scale (scoreFn p sym) ≤ v

def cellSum (dm : Discrete ERat K) (sym : ℕ → ℕ) : ℕ :=
  ((List.range dm.data.rows).map fun j => (dm.data.get j (sym j)).toNat).sum

theorem scale_le_min_cellSum {p : Mat ERat K} {x : ℕ → ℕ → ℚ} (h : FiniteEntries p x) (hK : 2 ≤ K)
    {dm : Discrete ERat K} (hdm : toDiscrete p = .ok dm)
    (sym : ℕ → ℕ) (hsym : ∀ j, j < p.rows → sym j < K) :
    (dm.scale (scoreFn p sym)).toNat ≤ min 255 (cellSum dm sym) := by
  obtain ⟨hoff, hfac, hrows, hcell⟩ := toDiscrete_facts h hK hdm
  by_cases hbot : ∃ j, j < p.rows ∧ p.get j (sym j) = .bot
  · -- some entry is −∞: the score is −∞ and its image is 0
    obtain ⟨j, hj, hb⟩ := hbot
    rw [scoreFn_bot p sym j hj hb]
    unfold Discrete.scale
    simp only [sub_def, div_def, floorU8_def, hoff, hfac, sub_bot_left, div_bot_left, floorU8_bot,
      UInt8.toNat_zero, Nat.zero_le]
  · -- every entry of the window is finite: `clamp_floor_sum_le` on the list of its scaled entries
    have hall : ∀ j, j < p.rows → ∃ q, p.get j (sym j) = .fin q := fun j hj => by
      cases hq : p.get j (sym j) with
      | bot => exact absurd ⟨j, hj, hq⟩ hbot
      | fin q => exact ⟨q, rfl⟩
    choose! v hv using hall
    rw [scoreFn_fin p sym v hv]
    unfold Discrete.scale cellSum
    simp only [sub_def, div_def, floorU8_def, hoff, hfac, sub_fin, div_fin, floorU8_fin, clampU8_toNat]
    rw [offQ, ← sum_map_sub_div, hrows]
    refine (clamp_floor_sum_le _).trans (Nat.le_of_eq ?_)
    -- left: cell `j` of the window is the clamped ceiling of its scaled entry (`hcell`)
    rw [List.map_map]
    refine congrArg (fun l : List ℕ => min 255 l.sum) (List.map_congr_left fun j hj => ?_)
    have hj' := List.mem_range.mp hj
    rw [hcell j (sym j) hj' (hsym j hj'), hv j hj']
    simp only [sub_fin, div_fin, ceilU8_fin, clampU8_toNat, Function.comp_apply]

/-- **C08, saturating accumulation (AVX2 kernel; generic kernel and
    `DiscreteMatrix::score_position` since the fix).**  For every matrix with finite non-wildcard
    entries and `factor > 0`, every window: the 8-bit score is computed without a panic and is at
    least the 8-bit image of the real score.
    `_hf` is not used: with `factor ≤ 0` the totalised division (`x / 0 = 0`) still gives the
    inequality.  It stays in the statement because the code divides by `factor`; a theorem that is
    true at `factor = 0` only through the totalisation must not say so (`scale_mono` needs it). -/
theorem saturating_never_underestimates {p : Mat ERat K} {x : ℕ → ℕ → ℚ} (h : FiniteEntries p x)
    (hK : 2 ≤ K) {dm : Discrete ERat K} (hdm : toDiscrete p = .ok dm) (_hf : 0 < facQ K x p.rows)
    (sym : ℕ → ℕ) (hsym : ∀ j, j < p.rows → sym j < K) :
    Holds .saturating p dm sym := by
  obtain ⟨v, hv, hn⟩ := dscoreFn_saturating dm.data sym
  refine ⟨v, hv, ?_⟩
  rw [UInt8.le_iff_toNat_le, hn]
  exact scale_le_min_cellSum h hK hdm sym hsym

/-- the same for a wrapping or overflow-checked accumulation, **whenever the cells of the window
    add up to at most 255** (`_hf` as above) -/
theorem nonsaturating_partial (mode : AddMode) {p : Mat ERat K} {x : ℕ → ℕ → ℚ}
    (h : FiniteEntries p x) (hK : 2 ≤ K) {dm : Discrete ERat K} (hdm : toDiscrete p = .ok dm)
    (_hf : 0 < facQ K x p.rows) (sym : ℕ → ℕ) (hsym : ∀ j, j < p.rows → sym j < K)
    (hsmall : cellSum dm sym ≤ 255) : Holds mode p dm sym := by
  obtain ⟨v, hv, hn⟩ := dscoreFn_exact mode dm.data sym hsmall
  refine ⟨v, hv, ?_⟩
  rw [UInt8.le_iff_toNat_le, hn]
  exact (scale_le_min_cellSum h hK hdm sym hsym).trans (Nat.min_le_right _ _)

def Statement (mode : AddMode) : Prop :=
  ∀ (K : ℕ) (p : Mat ERat K) (x : ℕ → ℕ → ℚ), FiniteEntries p x → 2 ≤ K →
    ∀ dm, toDiscrete p = .ok dm → 0 < facQ K x p.rows →
      ∀ sym : ℕ → ℕ, (∀ j, j < p.rows → sym j < K) → Holds mode p dm sym

theorem statement_saturating : Statement .saturating :=
  fun _ _ _ h hK _ hdm hf sym hsym => saturating_never_underestimates h hK hdm hf sym hsym

/-! ### `scale` is monotone: no hit is lost -/

theorem scale_mono {dm : Discrete ERat K} {off f : ℚ} (hoff : dm.offset = .fin off)
    (hfac : dm.factor = .fin f) (hf : 0 < f) {a b : ERat} (hab : ERat.le a b = true) :
    dm.scale a ≤ dm.scale b := by
  rw [UInt8.le_iff_toNat_le]
  unfold Discrete.scale
  simp only [sub_def, div_def, floorU8_def, hoff, hfac]
  cases a with
  | bot => exact Nat.zero_le _
  | fin qa =>
    cases b with
    | bot => cases hab
    | fin qb =>
      simp only [le_fin, decide_eq_true_eq] at hab
      simp only [sub_fin, div_fin, floorU8_fin, clampU8_toNat]
      exact clampNat_mono (Rat.floor_monotone
        (div_le_div_of_nonneg_right (sub_le_sub_right hab off) hf.le))

/-- **never lose a hit**: a window whose real score meets the threshold `t` has an 8-bit score
    that meets the byte threshold `scale t` -/
theorem never_lose_a_hit {p : Mat ERat K} {x : ℕ → ℕ → ℚ} (h : FiniteEntries p x)
    (hK : 2 ≤ K) {dm : Discrete ERat K} (hdm : toDiscrete p = .ok dm) (hf : 0 < facQ K x p.rows)
    (sym : ℕ → ℕ) (hsym : ∀ j, j < p.rows → sym j < K) (t : ERat)
    (ht : ScanScalar.ge (scoreFn p sym) t = true) :
    ∃ v, dscoreFn .saturating dm.data sym = .ok v ∧ dm.scale t ≤ v := by
  obtain ⟨v, hv, hle⟩ := saturating_never_underestimates h hK hdm hf sym hsym
  obtain ⟨hoff, hfac, -, -⟩ := toDiscrete_facts h hK hdm
  exact ⟨v, hv, Nat.le_trans (scale_mono hoff hfac hf ht) hle⟩

/-! ### the non-saturating accumulations violate the property (the code before the fix) -/

/-- a two-column motif whose consensus is `C C`: both rows are `[0, 1, 0, 0 | −∞]` -/
def pex : Mat ERat 5 := Mat.ofFn 2 fun _ j => if j = 4 then .bot else if j = 1 then .fin 1 else .fin 0
def xex : ℕ → ℕ → ℚ := fun _ a => if a = 1 then 1 else 0
def symx : ℕ → ℕ := fun _ => 1

/-- what the code computes on the consensus window: (8-bit score, image of the real score) -/
def obs (mode : AddMode) : Option (Except String UInt8 × UInt8) :=
  match toDiscrete pex with
  | .ok dm => some (dscoreFn mode dm.data symx, dm.scale (scoreFn pex symx))
  | .error _ => none

theorem pex_finite : FiniteEntries pex xex := by
  intro i a hi ha
  have hi' : i < 2 := by simpa [pex] using hi
  have ha' : a < 5 := Nat.lt_succ_of_lt ha
  have h4 : a ≠ 4 := Nat.ne_of_lt ha
  simp only [pex, Mat.get_ofFn, hi', ha', and_self, if_true, xex]
  by_cases h1 : a = 1 <;> simp [h4, h1]

theorem pex_factor_pos : 0 < facQ 5 xex pex.rows := by
  have : pex.rows = 2 := by simp [pex]
  rw [this]; decide +kernel

theorem nonsaturating_fails (mode : AddMode) (r : Except String UInt8 × UInt8)
    (hobs : obs mode = some r) (hbad : ∀ v, r.1 = .ok v → ¬ r.2 ≤ v) : ¬ Statement mode := by
  intro hst
  obtain ⟨dm, hdm⟩ := toDiscrete_ok pex
  obtain ⟨v, hv, hle⟩ := hst 5 pex xex pex_finite (by decide) dm hdm pex_factor_pos symx
    (fun _ _ => by simp [symx])
  unfold obs at hobs
  rw [hdm] at hobs
  simp only [Option.some.injEq] at hobs
  subst hobs
  exact hbad v hv hle

/-- wrapping `+=` (release build before the fix): the two cells are 128 + 128 = 256 ≡ 0, while
    the real score 2 = `max_score` has image 255 -/
theorem wrapping_counterexample : ¬ Statement .wrapping := by
  apply nonsaturating_fails .wrapping (.ok 0, 255) (by decide +kernel)
  intro v hv
  cases hv
  decide

/-- overflow-checked `+=` (dev build before the fix): the accumulation panics -/
theorem checked_counterexample : ¬ Statement .checked := by
  apply nonsaturating_fails .checked (.error "u8-overflow", 255) (by decide +kernel)
  intro v hv
  cases hv

/-- on the same matrix the saturating accumulation gives 255 ≥ 255 -/
example : obs .saturating = some (.ok 255, 255) := by decide +kernel

example : ∃ dm, toDiscrete pex = .ok dm ∧ Holds .saturating pex dm symx := by
  obtain ⟨dm, hdm⟩ := toDiscrete_ok pex
  exact ⟨dm, hdm, saturating_never_underestimates pex_finite (by decide) hdm pex_factor_pos symx
    (fun _ _ => by simp [symx])⟩

/-! ### every backend: the cells of a scored block -/

/-- the symbols `score_position` reads at position `i`: `s[i], s[i+1], …`, the wildcard `N` past the
    end.  `scoreFn p (window (K - 1) s i)` unfolds to `C01.windowScore`: `Bridge.scoreAt_eq_windowScore`
    is `rfl`. -/
def window (N : ℕ) (s : List ℕ) (i : ℕ) : ℕ → ℕ := fun j => pad N s (i + j)

theorem colWindow_eq {C : ℕ} {N : ℕ} {st : Striped C} {s : List ℕ} (hinv : C04.Inv N st s) (M : ℕ)
    (hwrap : M - 1 ≤ st.wrap) (row c : ℕ) (hrow : row < C04.seqRowsOf C s.length) (hc : c < C)
    (j : ℕ) (hj : j < M) :
    colWindow st row c j = window N s (c * C04.seqRowsOf C s.length + row) j := by
  unfold colWindow window
  exact C04.lookahead N st s hinv row j c hrow (Nat.le_trans (Nat.le_sub_one_of_lt hj) hwrap) hc

theorem dscoreFn_congr (mode : AddMode) (dm : Mat UInt8 K) (f g : ℕ → ℕ)
    (h : ∀ j, j < dm.rows → f j = g j) : dscoreFn mode dm f = dscoreFn mode dm g := by
  unfold dscoreFn
  apply foldE_congr
  intro s j hj
  rw [h j (List.mem_range.mp hj)]

theorem scoreFn_congr {α : Type} [ScanScalar α] [Inhabited α] (p : Mat α K) (f g : ℕ → ℕ)
    (h : ∀ j, j < p.rows → f j = g j) : scoreFn p f = scoreFn p g := by
  unfold scoreFn
  apply List.foldl_ext
  intro s j hj
  rw [h j (List.mem_range.mp hj)]

/-- **C08 for every backend and both build profiles** (the code after the fix): scoring the
    sequence rows `lo..hi` of a striped, configured sequence through any dispatcher arm does not
    panic, and cell `(r, c)` of the result is at least the 8-bit image of the real score of
    position `c·R + lo + r` — for positions inside the sequence and for the cells past its end
    (windows running into the padding), whatever the wildcard column holds. -/
theorem backend_never_underestimates {C : ℕ} (arm : Arm) (overflowChecks : Bool)
    {p : Mat ERat K} {x : ℕ → ℕ → ℚ} (h : FiniteEntries p x) (hK : 2 ≤ K)
    {dm : Discrete ERat K} (hdm : toDiscrete p = .ok dm) (hf : 0 < facQ K x p.rows)
    (st : Striped C) (s : List ℕ) (hinv : C04.Inv (K - 1) st s) (hs : ∀ a ∈ s, a < K)
    (hM : 1 ≤ p.rows) (hwrap : p.rows - 1 ≤ st.wrap) (hLM : p.rows ≤ s.length)
    (lo hi : ℕ) (hlo : lo < hi) (hhi : hi ≤ C04.seqRowsOf C s.length) :
    ∃ sc, scoreRowsDispatch arm (accOf overflowChecks) dm.data st lo hi = .ok sc ∧
      sc.data.rows = hi - lo ∧ sc.maxIndex = s.length + 1 - p.rows ∧
      ∀ r c, r < hi - lo → c < C →
        dm.scale (scoreFn p (window (K - 1) s (c * C04.seqRowsOf C s.length + lo + r))) ≤
          sc.data.get r c := by
  obtain ⟨-, -, hrows, -⟩ := toDiscrete_facts h hK hdm
  have hfit : hi + dm.data.rows ≤ st.data.rows + 1 := by
    rw [hinv.rows, hrows, Nat.add_assoc]; exact Nat.add_le_add hhi (Nat.le_add_of_sub_le hwrap)
  refine ⟨_, scoreRowsDispatch_sat arm dm.data st lo hi (hrows ▸ hM) (hrows ▸ hwrap)
    (by rw [hrows, hinv.len]; exact hLM) hlo hfit,
    by rw [blockMat_rows], by rw [hinv.len, hrows], fun r c hr hc => ?_⟩
  obtain ⟨v, hv, hle⟩ := saturating_never_underestimates h hK hdm hf
    (window (K - 1) s (c * C04.seqRowsOf C s.length + lo + r))
    (fun j _ => pad_lt _ s hs (Nat.sub_lt (Nat.zero_lt_of_lt hK) Nat.one_pos) _)
  have hrow : lo + r < C04.seqRowsOf C s.length :=
    Nat.lt_of_lt_of_le (Nat.add_lt_of_lt_sub' hr) hhi
  rw [blockMat_get _ lo (hi - lo) r c v hr hc]
  · exact hle
  · rw [← hv]
    refine dscoreFn_congr .saturating dm.data _ _ fun j hj => ?_
    rw [colWindow_eq hinv p.rows hwrap (lo + r) c hrow hc j (hrows ▸ hj), Nat.add_assoc]

theorem dscorePosition_eq {C : ℕ} (hC : 0 < C) (mode : AddMode) (dm : Mat UInt8 K) {N : ℕ}
    {st : Striped C} {s : List ℕ} (hinv : C04.Inv N st s) (pos : ℕ) (hpos : pos + dm.rows ≤ s.length) :
    dscorePosition mode dm st pos = dscoreFn mode dm (window N s pos) := by
  unfold dscorePosition dscoreFn
  apply foldE_congr
  intro v j hj
  have hj' := List.mem_range.mp hj
  have hlt : pos + j < s.length := Nat.lt_of_lt_of_le (Nat.add_lt_add_left hj' pos) hpos
  rw [C04.index_eq hC N st s hinv (pos + j) hlt]
  rfl

theorem scorePosition_eq {C : ℕ} (hC : 0 < C) (p : Mat ERat K) {N : ℕ}
    {st : Striped C} {s : List ℕ} (hinv : C04.Inv N st s) (pos : ℕ) (hpos : pos + p.rows ≤ s.length) :
    scorePosition p st pos = .ok (scoreFn p (window N s pos)) := by
  unfold scorePosition scoreFn
  apply foldE_ok
  intro v j hj
  have hj' := List.mem_range.mp hj
  have hlt : pos + j < s.length := Nat.lt_of_lt_of_le (Nat.add_lt_add_left hj' pos) hpos
  rw [C04.index_eq hC N st s hinv (pos + j) hlt]
  rfl

/-- **C08 for `DiscreteMatrix::score_position`** (both build profiles, after the fix) -/
theorem score_position_never_underestimates {C : ℕ} (hC : 0 < C) (overflowChecks : Bool)
    {p : Mat ERat K} {x : ℕ → ℕ → ℚ} (h : FiniteEntries p x) (hK : 2 ≤ K)
    {dm : Discrete ERat K} (hdm : toDiscrete p = .ok dm) (hf : 0 < facQ K x p.rows)
    (st : Striped C) (s : List ℕ) (hinv : C04.Inv (K - 1) st s) (hs : ∀ a ∈ s, a < K)
    (pos : ℕ) (hpos : pos + p.rows ≤ s.length) :
    ∃ v sc, dscorePosition (accOf overflowChecks) dm.data st pos = .ok v ∧
      scorePosition p st pos = .ok sc ∧ dm.scale sc ≤ v := by
  obtain ⟨-, -, hrows, -⟩ := toDiscrete_facts h hK hdm
  obtain ⟨v, hv, hle⟩ := saturating_never_underestimates h hK hdm hf (window (K - 1) s pos)
    (fun j _ => pad_lt _ s hs (Nat.sub_lt (Nat.zero_lt_of_lt hK) Nat.one_pos) _)
  refine ⟨v, _, ?_, scorePosition_eq hC p hinv pos hpos, hle⟩
  show dscorePosition .saturating dm.data st pos = .ok v
  rw [dscorePosition_eq hC .saturating dm.data hinv pos (by rw [hrows]; exact hpos)]
  exact hv

end C08
end LMV
