/-
  C03 — the scanner's best hit is a maximum-scoring position that meets the threshold.

  Abstract part: for every kernel record satisfying `C02.KernelSpec` and every scalar type whose
  comparison is a total preorder (`OrderLaws`), after ANY number of calls of `next`, `max` does not
  panic and returns `None` exactly when no hit remains to be returned, otherwise a remaining hit
  whose score no remaining hit exceeds.  Invariant of the block loop: `best` is a best hit among
  the buffered hits and the positions of the rows scanned so far (`Best`), and the pruning bound is
  an UNDER-estimate of the best score: `best_discrete ≤ scale(best.score)` (`Bd`) — the obligation
  that fails for the code before `fix: Scanner::max prunes better hits …`.
  Concrete part: the real scanner (every arm, both profiles), via `C02.kernels_spec`.
-/
import LMV.Props.C02

namespace LMV
namespace C03

open Scanner Disc ScanScalar C02

variable {α : Type} [ScanScalar α] {C : Nat}

/-- the comparison of scores is a total preorder and `<` is its strict part (true of the rationals
    with `−∞`; of IEEE floats without NaN).  The same three laws as `Maximum.Cmp.Total`, which has
    them for a `Cmp` record: the scanner model compares through `ScanScalar`, the maximum model through
    `Cmp`, and nothing converts one into the other (`Bridge.eratCmp` does it by hand for `ERat`). -/
structure OrderLaws (α : Type) [ScanScalar α] : Prop where
  le_total : ∀ a b : α, le a b = true ∨ le b a = true
  le_trans : ∀ a b c : α, le a b = true → le b c = true → le a c = true
  lt_iff : ∀ a b : α, lt a b = !le b a

namespace OrderLaws
variable (L : OrderLaws α)
include L

theorem le_refl (a : α) : le a a = true := by rcases L.le_total a a with h | h <;> exact h

theorem gt_false_iff (a b : α) : gt a b = false ↔ le a b = true := by
  unfold ScanScalar.gt; rw [L.lt_iff]; simp

theorem gt_true_le (a b : α) (h : gt a b = true) : le b a = true := by
  unfold ScanScalar.gt at h; rw [L.lt_iff] at h
  rcases L.le_total a b with h' | h'
  · simp [h'] at h
  · exact h'

theorem gt_self (a : α) : gt a a = false := (L.gt_false_iff a a).mpr (L.le_refl a)

end OrderLaws

/-- `best` is an answer `max` may give when the hits to choose from are `A`: `None` iff there is
    none, else one of them that none out-scores.  `A` grows along the loop (`Seen`). -/
def Best (best : Option (Hit α)) (A : Hit α → Prop) : Prop :=
  match best with
  | none => ∀ h, ¬ A h
  | some b => A b ∧ ∀ h, A h → gt h.score b.score = false

/-- the pruning bound stays an under-estimate: the byte image of the threshold while nothing is
    found, at most the byte image of the best score afterwards; the best hit meets the threshold -/
def Bd (k : Kernels α C) (t : α) (best : Option (Hit α)) (bd : UInt8) : Prop :=
  match best with
  | none => bd = k.scale t
  | some b => bd ≤ k.scale b.score ∧ ge b.score t = true

theorem Best.congr {best : Option (Hit α)} {A A' : Hit α → Prop} (h : Best best A)
    (hiff : ∀ x, A x ↔ A' x) : Best best A' := by
  cases best with
  | none => exact fun x hx => h x ((hiff x).mpr hx)
  | some b => exact ⟨(hiff b).mp h.1, fun x hx => h.2 x ((hiff x).mpr hx)⟩

theorem Best.first (L : OrderLaws α) {A : Hit α → Prop} (hB : Best none A) (x : Hit α) :
    Best (some x) (fun h => A h ∨ h = x) :=
  ⟨Or.inr rfl, fun h hh => hh.elim (fun hA => absurd hA (hB h)) fun e => e ▸ L.gt_self _⟩

theorem Best.replace (L : OrderLaws α) {A : Hit α → Prop} {b : Hit α} (hB : Best (some b) A)
    (x : Hit α) (hle : le b.score x.score = true) : Best (some x) (fun h => A h ∨ h = x) :=
  ⟨Or.inr rfl, fun h hh => hh.elim
    (fun hA => (L.gt_false_iff _ _).mpr (L.le_trans _ _ _ ((L.gt_false_iff _ _).mp (hB.2 h hA)) hle))
    fun e => e ▸ L.gt_self _⟩

theorem Best.keep {A B : Hit α → Prop} {b : Hit α} (hB : Best (some b) A)
    (hle : ∀ h, B h → gt h.score b.score = false) : Best (some b) (fun h => A h ∨ B h) :=
  ⟨Or.inl hB.1, fun h hh => hh.elim (hB.2 h) (hle h)⟩

/-- the hits `Scanner` has to yield from the positions in `S` -/
def hitsOf (score : Nat → α) (t : α) (nPos : Nat) (S : Nat → Prop) (h : Hit α) : Prop :=
  ∃ i, S i ∧ i < nPos ∧ ge (score i) t = true ∧ h = mkHit score i

theorem hitsOf_or {score : Nat → α} {t : α} {nPos : Nat} {S T : Nat → Prop} (h : Hit α) :
    hitsOf score t nPos S h ∨ hitsOf score t nPos T h ↔
      hitsOf score t nPos (fun i => S i ∨ T i) h := by
  unfold hitsOf
  constructor
  · rintro (⟨i, hS, rest⟩ | ⟨i, hT, rest⟩)
    · exact ⟨i, Or.inl hS, rest⟩
    · exact ⟨i, Or.inr hT, rest⟩
  · rintro ⟨i, hS | hT, rest⟩
    · exact Or.inl ⟨i, hS, rest⟩
    · exact Or.inr ⟨i, hT, rest⟩

theorem hitsOf_congr {score : Nat → α} {t : α} {nPos : Nat} {S T : Nat → Prop}
    (hST : ∀ i, i < nPos → (S i ↔ T i)) (h : Hit α) :
    hitsOf score t nPos S h ↔ hitsOf score t nPos T h := by
  unfold hitsOf
  constructor <;> rintro ⟨i, hS, hlt, rest⟩
  · exact ⟨i, (hST i hlt).1 hS, hlt, rest⟩
  · exact ⟨i, (hST i hlt).2 hS, hlt, rest⟩

theorem hitsOf_single {score : Nat → α} {t : α} {nPos i0 : Nat} (h : Hit α) :
    hitsOf score t nPos (fun i => i0 = i) h ↔
      (i0 < nPos ∧ ge (score i0) t = true) ∧ h = mkHit score i0 := by
  unfold hitsOf
  constructor
  · rintro ⟨i, rfl, hlt, hq, e⟩; exact ⟨⟨hlt, hq⟩, e⟩
  · rintro ⟨⟨hlt, hq⟩, e⟩; exact ⟨i0, rfl, hlt, hq, e⟩

theorem hitsOf_rows {score : Nat → α} {t : α} {nPos R lo hi : Nat} (h : Hit α) :
    hitsOf score t nPos (fun i => lo ≤ i % R ∧ i % R < hi) h ↔
      h ∈ (rowsQual score t nPos R lo hi).map (mkHit score) := by
  simp only [hitsOf, List.mem_map, mem_rowsQual]
  constructor
  · rintro ⟨i, ⟨h1, h2⟩, hlt, hq, rfl⟩; exact ⟨i, ⟨hlt, h1, h2, hq⟩, rfl⟩
  · rintro ⟨i, ⟨hlt, h1, h2, hq⟩, rfl⟩; exact ⟨i, ⟨h1, h2⟩, hlt, hq, rfl⟩

/-- positions whose byte score is below the bound can be added to the accounted-for set: none of
    them beats `best` (none of them qualifies while `best` is `None`) -/
theorem best_add_pruned {k : Kernels α C} {R nPos : Nat} {score : Nat → α}
    (spec : KernelSpec k R nPos score) (L : OrderLaws α) (t : α) {best : Option (Hit α)}
    {bd : UInt8} {A : Hit α → Prop} (hB : Best best A) (hbd : Bd k t best bd) (S : Nat → Prop)
    (hS : ∀ i, S i → i < nPos → k.scale (score i) < bd) :
    Best best (fun h => A h ∨ hitsOf score t nPos S h) := by
  cases best with
  | none =>
    rintro h (hA | ⟨i, hSi, hlt, hq, rfl⟩)
    · exact hB h hA
    · have h1 := hS i hSi hlt
      rw [show bd = k.scale t from hbd] at h1
      exact absurd h1 (UInt8.not_lt.2 (spec.scale_mono t (score i) hq))
  | some b =>
    refine ⟨Or.inl hB.1, ?_⟩
    rintro h (hA | ⟨i, hSi, hlt, hq, rfl⟩)
    · exact hB.2 h hA
    · by_contra hgt
      have hle := L.gt_true_le (score i) _ (eq_true_of_ne_false hgt)
      exact absurd (hS i hSi hlt)
        (UInt8.not_lt.2 (UInt8.le_trans hbd.1 (spec.scale_mono b.score (score i) hle)))

/-- `hmi`: the loop reads the `max_index` of the block only when there is a candidate -/
theorem maxCand_inv {k : Kernels α C} {R nPos : Nat} {score : Nat → α}
    (spec : KernelSpec k R nPos score) (L : OrderLaws α) (t : α) (row : Nat) (ds : Scores C)
    (hdom : ∀ r c, r < ds.data.rows → c < C → c * R + row + r < nPos →
      k.scale (score (c * R + row + r)) ≤ ds.data.get r c)
    (cands : List (Nat × Nat)) (hmi : cands ≠ [] → ds.maxIndex = nPos)
    (hc : ∀ rc ∈ cands, rc.1 < ds.data.rows ∧ rc.2 < C)
    (best : Option (Hit α)) (bd : UInt8) (A : Hit α → Prop) (hB : Best best A) (hbd : Bd k t best bd) :
    ∃ best' bd', maxCand k t row ds cands (best, bd) = .ok (best', bd') ∧
      Best best' (fun h => A h ∨ hitsOf score t nPos (fun i => ∃ rc ∈ cands, candPos R row rc = i) h) ∧
      Bd k t best' bd' := by
  induction cands generalizing best bd A with
  | nil =>
    exact ⟨best, bd, rfl, hB.congr fun x => by simp [hitsOf], hbd⟩
  | cons rc cs ih =>
    obtain ⟨r, c⟩ := rc
    have hrc := hc (r, c) (List.mem_cons_self ..)
    have hmi := hmi (List.cons_ne_nil _ _)
    rw [maxCand, spec.seqRows, hmi]
    generalize hpos : c * R + row + r = pos
    -- whatever this candidate does to `best`, the remaining ones are handled by induction
    have hfinish : ∀ best1 bd1,
        Best best1 (fun h => A h ∨ hitsOf score t nPos (fun i => pos = i) h) → Bd k t best1 bd1 →
        ∃ best' bd', maxCand k t row ds cs (best1, bd1) = .ok (best', bd') ∧
          Best best' (fun h => A h ∨ hitsOf score t nPos
            (fun i => ∃ rc ∈ (r, c) :: cs, candPos R row rc = i) h) ∧ Bd k t best' bd' := by
      intro best1 bd1 hB1 hbd1
      obtain ⟨b', d', h1, h2, h3⟩ :=
        ih (fun _ => hmi) (fun rc h => hc rc (List.mem_cons_of_mem _ h)) best1 bd1 _ hB1 hbd1
      refine ⟨b', d', h1, h2.congr fun x => ?_, h3⟩
      rw [or_assoc, hitsOf_or]
      refine or_congr Iff.rfl (hitsOf_congr (fun i _ => ?_) x)
      simp only [List.mem_cons, exists_eq_or_imp, candPos, hpos]
    -- the hit of this candidate, when it is a qualifying position …
    have hin : pos < nPos → ge (score pos) t = true → ∀ h,
        (A h ∨ h = mkHit score pos) ↔ (A h ∨ hitsOf score t nPos (fun i => pos = i) h) :=
      fun hlt hq h => or_congr Iff.rfl ((hitsOf_single h).trans (and_iff_right ⟨hlt, hq⟩)).symm
    -- … and when it is not
    have hout : ¬ (pos < nPos ∧ ge (score pos) t = true) → ∀ h,
        A h ↔ (A h ∨ hitsOf score t nPos (fun i => pos = i) h) := fun hn h =>
      (or_iff_left fun hh => hn ((hitsOf_single h).1 hh).1).symm
    by_cases hge : ds.data.get r c ≥ bd
    · rw [if_pos hge]
      by_cases hlt : pos < nPos
      · rw [if_pos hlt, spec.scorePosition _ hlt]
        cases best with
        | some b =>
          simp only
          split
          · next hcond =>
            -- the new best hit is at least the old one
            have hle : le b.score (score pos) = true := by
              rcases Bool.or_eq_true _ _ |>.mp hcond with h | h
              · exact L.gt_true_le _ _ h
              · exact (Bool.and_eq_true _ _ |>.mp (Bool.and_eq_true _ _ |>.mp h).1).2
            have hq : ge (score pos) t = true := L.le_trans _ _ _ hbd.2 hle
            exact hfinish _ _ ((hB.replace L (mkHit score _) hle).congr (hin hlt hq))
              ⟨UInt8.le_refl _, hq⟩
          · next hcond =>
            refine hfinish _ _ (hB.keep fun h hh => ?_) hbd
            rw [((hitsOf_single h).1 hh).2]
            exact (Bool.or_eq_false_iff.mp (Bool.not_eq_true _ |>.mp hcond)).1
        | none =>
          simp only
          split
          · next hq =>
            exact hfinish _ _ ((hB.first L (mkHit score _)).congr (hin hlt hq))
              ⟨by rw [show bd = k.scale t from hbd]; exact spec.scale_mono _ _ hq, hq⟩
          · next hq => exact hfinish _ _ (hB.congr (hout fun h => hq h.2)) hbd
      · rw [if_neg hlt]
        exact hfinish _ _ (hB.congr (hout fun h => hlt h.1)) hbd
    · rw [if_neg hge]
      refine hfinish _ _ (best_add_pruned spec L t hB hbd _ ?_) hbd
      rintro i rfl hlt
      subst hpos
      exact Nat.lt_of_le_of_lt (hdom r c hrc.1 hrc.2 hlt) (Nat.lt_of_not_le hge)

/-- `maxCand_inv` for a block that carries the `max_index` of the sequence -/
theorem maxCand_spec {k : Kernels α C} {R nPos : Nat} {score : Nat → α}
    (spec : KernelSpec k R nPos score) (L : OrderLaws α) (t : α) (row : Nat) (ds : Scores C)
    (hmi : ds.maxIndex = nPos)
    (hdom : ∀ r c, r < ds.data.rows → c < C → c * R + row + r < nPos →
      k.scale (score (c * R + row + r)) ≤ ds.data.get r c)
    (cands : List (Nat × Nat)) (hc : ∀ rc ∈ cands, rc.1 < ds.data.rows ∧ rc.2 < C)
    (best : Option (Hit α)) (bd : UInt8) (A : Hit α → Prop) (hB : Best best A) (hbd : Bd k t best bd) :
    ∃ best' bd', maxCand k t row ds cands (best, bd) = .ok (best', bd') ∧
      Best best' (fun h => A h ∨ hitsOf score t nPos (fun i => ∃ rc ∈ cands, candPos R row rc = i) h) ∧
      Bd k t best' bd' :=
  maxCand_inv spec L t row ds hdom cands (fun _ => hmi) hc best bd A hB hbd

/-- the hits accounted for once the rows `[row0, row)` are scanned -/
def Seen (score : Nat → α) (t : α) (nPos R : Nat) (hits0 : List (Hit α)) (row0 row : Nat)
    (h : Hit α) : Prop :=
  h ∈ hits0 ∨ hitsOf score t nPos (fun i => row0 ≤ i % R ∧ i % R < row) h

/-- the skip of a block is read as looking at its (empty) candidate list -/
theorem maxStep_eq {k : Kernels α C} {R nPos : Nat} {score : Nat → α}
    (spec : KernelSpec k R nPos score) (t : α) (block : Nat) (s : MaxState α) {ds : Scores C}
    (hds : k.scoreRows s.row (min (s.row + block) R) = .ok ds) {best : Option (Hit α)} {bd : UInt8}
    (hr : maxCand k t s.row ds (k.threshold ds s.bd) (s.best, s.bd) = .ok (best, bd)) :
    maxStep k t block s = .ok ⟨s.row + block, best, bd⟩ := by
  unfold maxStep
  simp only [spec.seqRows, hds]
  by_cases hnil : k.threshold ds s.bd = []
  · rw [hnil] at hr ⊢
    cases hr
    cases k.max ds with
    | none => rfl
    | some m => simp only [maxCand, ite_self]
  · obtain ⟨m, hm, hge⟩ := max_ge_of_cand spec ds _ hnil
    simp only [hm, if_pos hge, hr]

theorem Ico_or_Ico {lo mid hi m : Nat} (h1 : lo ≤ mid) (h2 : mid ≤ hi) :
    lo ≤ m ∧ m < mid ∨ mid ≤ m ∧ m < hi ↔ lo ≤ m ∧ m < hi :=
  ⟨fun h => h.elim (fun h => ⟨h.1, Nat.lt_of_lt_of_le h.2 h2⟩) fun h => ⟨Nat.le_trans h1 h.1, h.2⟩,
   fun h => (Nat.lt_or_ge m mid).imp (fun h' => ⟨h.1, h'⟩) fun h' => ⟨h', h.2⟩⟩

theorem maxStep_spec {k : Kernels α C} {R nPos : Nat} {score : Nat → α}
    (spec : KernelSpec k R nPos score) (L : OrderLaws α) (t : α) (block : Nat) (hb : 1 ≤ block)
    (hits0 : List (Hit α)) (row0 : Nat) (s : MaxState α) (hrow0 : row0 ≤ s.row) (hrow : s.row < R)
    (hB : Best s.best (Seen score t nPos R hits0 row0 s.row)) (hbd : Bd k t s.best s.bd) :
    ∃ s', maxStep k t block s = .ok s' ∧ s'.row = s.row + block ∧
      Best s'.best (Seen score t nPos R hits0 row0 s'.row) ∧ Bd k t s'.best s'.bd := by
  have he2 : min (s.row + block) R ≤ R := Nat.min_le_right _ _
  have he1 : s.row < min (s.row + block) R := Nat.lt_min.2 ⟨Nat.lt_add_of_pos_right hb, hrow⟩
  obtain ⟨ds, hds, hblk⟩ := spec.block he1 he2
  -- first account for every position of the block whose cell is below the bound …
  have hB1 := best_add_pruned spec L t hB hbd
    (fun i => s.row ≤ i % R ∧ i % R < min (s.row + block) R ∧
      ds.data.get (i % R - s.row) (i / R) < s.bd)
    (fun i ⟨hlo, hhi, hcell⟩ hlt => Nat.lt_of_le_of_lt (hblk.cell i hlt hlo hhi).2 hcell)
  -- … then the candidates; together they make up the block (`Block.cand_iff`)
  obtain ⟨b', d', h1, h2, h3⟩ := maxCand_inv spec L t s.row ds
    (fun r c hr _ => hblk.dom he2 r c hr) (k.threshold ds s.bd) (hblk.maxIndex_of_cand spec)
    (fun rc hrc => have := (spec.thr_mem ds s.bd rc.1 rc.2).mp hrc; ⟨this.1, this.2.1⟩)
    s.best s.bd _ hB1 hbd
  refine ⟨_, maxStep_eq spec t block s hds h1, rfl, h2.congr fun x => ?_, h3⟩
  unfold Seen
  rw [or_assoc, or_assoc, hitsOf_or, hitsOf_or]
  refine or_congr Iff.rfl (hitsOf_congr (fun i hlt => ?_) x)
  have := Nat.mod_lt i (R_pos_of_pos spec.fits hlt)
  rw [hblk.cand_iff spec he2 s.bd hlt]
  -- a cell is below the bound or not; `i % R < R` makes the `min` of the block end vanish
  simp only [← and_or_left, UInt8.lt_or_le, Nat.lt_min, this, and_true]
  exact Ico_or_Ico hrow0 (Nat.le_add_right _ _)

theorem maxLoop_spec {k : Kernels α C} {R nPos : Nat} {score : Nat → α}
    (spec : KernelSpec k R nPos score) (L : OrderLaws α) (t : α) (block : Nat) (hb : 1 ≤ block)
    (hits0 : List (Hit α)) (row0 : Nat) (fuel : Nat) (s : MaxState α) (hrow0 : row0 ≤ s.row)
    (hfuel : R ≤ s.row + fuel)
    (hB : Best s.best (Seen score t nPos R hits0 row0 s.row)) (hbd : Bd k t s.best s.bd) :
    ∃ s', maxLoop k t block (fuel + 1) s = .ok s' ∧ R ≤ s'.row ∧
      Best s'.best (Seen score t nPos R hits0 row0 s'.row) := by
  induction fuel generalizing s with
  | zero =>
    refine ⟨s, ?_, hfuel, hB⟩
    unfold maxLoop
    rw [if_neg]; rw [spec.seqRows]; exact Nat.not_lt.2 hfuel
  | succ fuel ih =>
    unfold maxLoop
    by_cases hcond : s.row < k.seqRows
    · rw [if_pos hcond]
      obtain ⟨s1, h1, hr1, hB1, hbd1⟩ := maxStep_spec spec L t block hb hits0 row0 s hrow0
        (by rw [← spec.seqRows]; exact hcond) hB hbd
      rw [h1]
      exact ih s1 (hr1 ▸ Nat.le_add_right_of_le hrow0) (hr1 ▸ fuel_step hb hfuel) hB1 hbd1
    · rw [if_neg hcond]
      rw [spec.seqRows] at hcond
      exact ⟨s, rfl, Nat.le_of_not_lt hcond, hB⟩

/-- one step of `max_by` on hits: `b` stays unless `h` is at least as good -/
def insertBest (best : Option (Hit α)) (h : Hit α) : Option (Hit α) :=
  match best with
  | none => some h
  | some b => if gt b.score h.score then some b else some h

theorem Best.insert (L : OrderLaws α) {best : Option (Hit α)} {A : Hit α → Prop} (hB : Best best A)
    (x : Hit α) : Best (insertBest best x) (fun h => A h ∨ h = x) := by
  fun_cases insertBest best x with
  | case1 => exact hB.first L x
  | case2 b hgt => exact hB.keep fun h e => e ▸ (L.gt_false_iff _ _).mpr (L.gt_true_le _ _ hgt)
  | case3 b hgt => exact hB.replace L x ((L.gt_false_iff _ _).mp (Bool.not_eq_true _ |>.mp hgt))

theorem Best.foldl_insert (L : OrderLaws α) (l : List (Hit α)) {best : Option (Hit α)}
    {A : Hit α → Prop} (hB : Best best A) :
    Best (l.foldl insertBest best) (fun h => A h ∨ h ∈ l) := by
  induction l generalizing best A with
  | nil => exact hB.congr (by simp)
  | cons a l ih => exact (ih (hB.insert L a)).congr fun h => by simp only [List.mem_cons, or_assoc]

/-- seeding from the buffered hits: the last of the best-scoring buffered hits that meet the
    threshold -/
theorem seedBest_spec (L : OrderLaws α) (t : α) (hits : List (Hit α)) :
    Best (seedBest t hits) (fun h => h ∈ hits ∧ ge h.score t = true) ∧
      ∀ b, seedBest t hits = some b → ge b.score t = true := by
  -- `filter` then `max_by`, as in the source
  have e : seedBest t hits =
      (hits.reverse.filter fun h => ge h.score t).foldl insertBest none := by
    unfold seedBest
    rw [List.foldl_filter]
    rfl
  have h : Best (seedBest t hits) (fun h => h ∈ hits ∧ ge h.score t = true) := by
    rw [e]
    exact (Best.foldl_insert L _ (show Best none fun _ => False from fun _ h => h)).congr
      (by simp [List.mem_filter])
  refine ⟨h, fun b hb => ?_⟩
  rw [hb] at h
  exact h.1.2

/-- **C03 (abstract form, any state).**  From any scanner state whose buffered hits meet the
    threshold, `max` does not panic; it returns `None` exactly when no hit remains to be returned
    (`remaining` = buffered hits and qualifying positions of the rows not yet scanned), otherwise
    a remaining hit that no remaining hit out-scores. -/
theorem max_spec {k : Kernels α C} {R nPos : Nat} {score : Nat → α}
    (spec : KernelSpec k R nPos score) (L : OrderLaws α) (t : α) (block : Nat) (hb : 1 ≤ block)
    (st : State α) (hq : ∀ h ∈ st.hits, ge h.score t = true) :
    ∃ r, Scanner.max k t block st = .ok r ∧ Best r (fun h => h ∈ remaining score t nPos R st) := by
  obtain ⟨hseed, hseedq⟩ := seedBest_spec L t st.hits
  have hB0 : Best (seedBest t st.hits) (Seen score t nPos R st.hits st.row st.row) := by
    refine hseed.congr fun x => ⟨fun h => Or.inl h.1, ?_⟩
    rintro (h | ⟨i, ⟨h1, h2⟩, _⟩)
    · exact ⟨h, hq x h⟩
    · exact absurd h2 (Nat.not_lt.2 h1)
  -- the block loop from the seed: rows up to its last `row ≥ R` are all the rows
  have hloop : ∀ best0 bd0, Best best0 (Seen score t nPos R st.hits st.row st.row) →
      Bd k t best0 bd0 → ∃ s', maxLoop k t block (R + 1) ⟨st.row, best0, bd0⟩ = .ok s' ∧
        Best s'.best (fun h => h ∈ remaining score t nPos R st) := by
    intro best0 bd0 hB hbd
    obtain ⟨s', hs', hR, hB'⟩ := maxLoop_spec spec L t block hb st.hits st.row R
      ⟨st.row, best0, bd0⟩ (Nat.le_refl _) (Nat.le_add_left _ _) hB hbd
    refine ⟨s', hs', (hB'.congr fun x => or_congr Iff.rfl (hitsOf_congr
      (T := fun i => st.row ≤ i % R ∧ i % R < R) (fun i hlt => ?_) x)).congr fun x => ?_⟩
    · have := Nat.mod_lt i (R_pos_of_pos spec.fits hlt)
      exact and_congr_right fun _ => iff_of_true (Nat.lt_of_lt_of_le this hR) this
    · exact (or_congr Iff.rfl (hitsOf_rows x)).trans List.mem_append.symm
  unfold Scanner.max
  simp only [spec.seqRows]
  cases hs : seedBest t st.hits with
  | none =>
    obtain ⟨s', h1, h2⟩ := hloop none (k.scale t) (hs ▸ hB0) rfl
    rw [h1]
    exact ⟨s'.best, rfl, h2⟩
  | some b =>
    obtain ⟨s', h1, h2⟩ := hloop (some b) (k.scale b.score) (hs ▸ hB0)
      ⟨UInt8.le_refl _, hseedq b hs⟩
    rw [h1]
    exact ⟨s'.best, rfl, h2⟩

theorem nextN_spec {k : Kernels α C} {R nPos : Nat} {score : Nat → α}
    (spec : KernelSpec k R nPos score) (t : α) (block : Nat) (hb : 1 ≤ block) (n : Nat)
    (st : State α) :
    ∃ ret st', nextN k t block n st = .ok (ret, st') ∧
      (ret ++ remaining score t nPos R st').Perm (remaining score t nPos R st) := by
  induction n generalizing st with
  | zero => exact ⟨[], st, rfl, List.Perm.refl _⟩
  | succ n ih =>
    unfold nextN
    rcases next_spec spec t block hb st with ⟨h, st1, hn, hperm⟩ | ⟨st1, hn, hnil, hnil'⟩
    · rw [hn]
      obtain ⟨ret, st2, h2, hp2⟩ := ih st1
      refine ⟨h :: ret, st2, by simp only [h2], ?_⟩
      exact (List.Perm.cons h hp2).trans hperm
    · rw [hn]
      exact ⟨[], st1, rfl, by rw [hnil, hnil']; exact List.Perm.refl _⟩

/-- **C03.**  After any number `n` of calls of `next` on a fresh scanner, `max`:
    * does not panic;
    * the hits `ret` already returned and the hits `rest` not yet returned partition the
      qualifying positions `[(i, score i) | i < nPos, score i ≥ t]`;
    * returns `None` iff `rest` is empty, otherwise a member of `rest` that no member of `rest`
      out-scores (hence a position meeting the threshold with the maximum score among the
      positions not yet returned). -/
theorem max_after_next {k : Kernels α C} {R nPos : Nat} {score : Nat → α}
    (spec : KernelSpec k R nPos score) (L : OrderLaws α) (t : α) (block : Nat) (hb : 1 ≤ block)
    (n : Nat) :
    ∃ ret st r, nextN k t block n State.init = .ok (ret, st) ∧ Scanner.max k t block st = .ok r ∧
      (ret ++ remaining score t nPos R st).Perm ((allQual score t nPos).map (mkHit score)) ∧
      Best r (fun h => h ∈ remaining score t nPos R st) := by
  obtain ⟨ret, st, hn, hperm⟩ := nextN_spec spec t block hb n (State.init : State α)
  rw [remaining_init spec] at hperm
  have hq : ∀ h ∈ st.hits, ge h.score t = true := by
    intro h hh
    obtain ⟨i, hi, rfl⟩ := List.mem_map.1
      (hperm.mem_iff.mp (List.mem_append_right _ (List.mem_append_left _ hh)))
    exact (mem_allQual.mp hi).2
  obtain ⟨r, hr, hB⟩ := max_spec spec L t block hb st hq
  exact ⟨ret, st, r, hn, hr, hperm, hB⟩

def SameBest (r1 r2 : Option (Hit α)) : Prop :=
  match r1, r2 with
  | none, none => True
  | some x, some y => ScanScalar.eq x.score y.score = true
  | _, _ => False

theorem max_block_independent {k : Kernels α C} {R nPos : Nat} {score : Nat → α}
    (spec : KernelSpec k R nPos score) (L : OrderLaws α) (t : α) (b1 b2 : Nat) (h1 : 1 ≤ b1)
    (h2 : 1 ≤ b2) :
    ∃ r1 r2, Scanner.max k t b1 State.init = .ok r1 ∧ Scanner.max k t b2 State.init = .ok r2 ∧
      SameBest r1 r2 := by
  obtain ⟨r1, hr1, hB1⟩ := max_spec spec L t b1 h1 (State.init : State α) nofun
  obtain ⟨r2, hr2, hB2⟩ := max_spec spec L t b2 h2 (State.init : State α) nofun
  refine ⟨r1, r2, hr1, hr2, ?_⟩
  cases r1 with
  | none =>
    cases r2 with
    | none => trivial
    | some y => exact hB1 y hB2.1
  | some x =>
    cases r2 with
    | none => exact hB2 x hB1.1
    | some y =>
      simp only [SameBest, ScanScalar.eq, Bool.and_eq_true]
      exact ⟨(L.gt_false_iff _ _).mp (hB2.2 x hB1.1), (L.gt_false_iff _ _).mp (hB1.2 y hB2.1)⟩

/-! ### the real scanner -/

section concrete
open Striped
variable {K : Nat}

theorem erat_laws : OrderLaws ERat := ⟨ERat.le_total, ERat.le_trans, ERat.lt_eq_not_le⟩

/-- `max_after_next` over `ERat`, in the words of the final statements -/
theorem best_hit_of_spec {k : Kernels ERat C} {R nPos : Nat} {score : Nat → ERat}
    (spec : KernelSpec k R nPos score) (t : ERat) (block : Nat) (hb : 1 ≤ block) (n : Nat) :
    ∃ ret state rest r,
      nextN k t block n State.init = .ok (ret, state) ∧ Scanner.max k t block state = .ok r ∧
      (ret ++ rest).Perm ((allQual score t nPos).map (mkHit score)) ∧
      (r = none ↔ rest = []) ∧
      ∀ b, r = some b → b ∈ rest ∧ ∀ h ∈ rest, ERat.le h.score b.score = true := by
  obtain ⟨ret, state, r, hn, hr, hperm, hB⟩ := max_after_next spec erat_laws t block hb n
  refine ⟨ret, state, _, r, hn, hr, hperm, ?_, ?_⟩
  · cases r with
    | none => exact ⟨fun _ => List.eq_nil_iff_forall_not_mem.mpr hB, fun _ => rfl⟩
    | some b => exact ⟨fun e => (by cases e), fun e => absurd e (List.ne_nil_of_mem hB.1)⟩
  · rintro b rfl
    exact ⟨hB.1, fun h hh => (erat_laws.gt_false_iff _ _).mp (hB.2 h hh)⟩

/-- **C03 for the real scanner.**  Exact arithmetic; every matrix with finite non-wildcard entries
    (wildcard column `−∞` or finite) and `factor > 0`, every sequence, striped with at least `M − 1`
    wrap rows, every threshold, every block size `≥ 1`, every dispatcher arm, both build profiles,
    every number `n` of preceding calls of `next`: nothing panics; the hits `ret` already returned
    together with `rest` (the hits not yet returned) are a permutation of the qualifying positions
    `[(i, score i) | i + M ≤ L, score i ≥ t]`; `max` returns `None` iff `rest` is empty and
    otherwise a member of `rest` whose score no member of `rest` exceeds. -/
theorem scanner_best_hit (arm : Arm) (overflowChecks : Bool) {p : Mat ERat K} {x : ℕ → ℕ → ℚ}
    (hfin : C08.FiniteEntries p x) (hK : 2 ≤ K) (hf : 0 < C08.facQ K x p.rows) (hC : 0 < C)
    (st : Striped C) (s : List Nat) (hinv : C04.Inv (K - 1) st s) (hs : ∀ a ∈ s, a < K)
    (hM : 1 ≤ p.rows) (hwrap : p.rows - 1 ≤ st.wrap) (t : ERat) (block : Nat) (hb : 1 ≤ block)
    (n : Nat) :
    ∃ dm, toDiscrete p = .ok dm ∧
      ∃ ret state rest r,
        nextN (kernels p dm st arm (accOf overflowChecks)) t block n State.init = .ok (ret, state) ∧
        Scanner.max (kernels p dm st arm (accOf overflowChecks)) t block state = .ok r ∧
        (ret ++ rest).Perm
          ((allQual (scoreAt p s) t (s.length + 1 - p.rows)).map (mkHit (scoreAt p s))) ∧
        (r = none ↔ rest = []) ∧
        ∀ b, r = some b → b ∈ rest ∧ ∀ h ∈ rest, ERat.le h.score b.score = true := by
  obtain ⟨dm, hdm⟩ := C08.toDiscrete_ok p
  exact ⟨dm, hdm, best_hit_of_spec
    (kernels_spec arm overflowChecks hfin hK hdm hf hC st s hinv hs hM hwrap) t block hb n⟩

/-- the best hit of a fresh scanner does not depend on the block size: for two block sizes `max`
    returns `None` twice or two hits of equal score -/
theorem scanner_best_hit_block_independent (arm : Arm) (overflowChecks : Bool) {p : Mat ERat K}
    {x : ℕ → ℕ → ℚ} (hfin : C08.FiniteEntries p x) (hK : 2 ≤ K) (hf : 0 < C08.facQ K x p.rows)
    (hC : 0 < C) (st : Striped C) (s : List Nat) (hinv : C04.Inv (K - 1) st s)
    (hs : ∀ a ∈ s, a < K) (hM : 1 ≤ p.rows) (hwrap : p.rows - 1 ≤ st.wrap) (t : ERat)
    (b1 b2 : Nat) (h1 : 1 ≤ b1) (h2 : 1 ≤ b2) :
    ∃ dm, toDiscrete p = .ok dm ∧ ∃ r1 r2,
      Scanner.max (kernels p dm st arm (accOf overflowChecks)) t b1 State.init = .ok r1 ∧
      Scanner.max (kernels p dm st arm (accOf overflowChecks)) t b2 State.init = .ok r2 ∧
      SameBest r1 r2 := by
  obtain ⟨dm, hdm⟩ := C08.toDiscrete_ok p
  exact ⟨dm, hdm, max_block_independent
    (kernels_spec arm overflowChecks hfin hK hdm hf hC st s hinv hs hM hwrap) erat_laws t b1 b2 h1 h2⟩

/-! On the example of C02 (`C C A C C T C`, motif `C C`): after `n` calls of `next`
    with threshold 1 and block size 1 the hits come out in the order 4, 0, 5, 1, 2, 3; `max` then
    returns the best of the rest -/

def runx (t : ERat) (block n : Nat) : Option (List Nat × Option Nat) :=
  match toDiscrete C08.pex with
  | .ok dm =>
    match nextN (kernels C08.pex dm stx .generic .saturating) t block n State.init with
    | .ok (ret, st) =>
      match Scanner.max (kernels C08.pex dm stx .generic .saturating) t block st with
      | .ok r => some (ret.map (·.position), r.map (·.position))
      | .error _ => none
    | .error _ => none
  | .error _ => none

example : runx (.fin 1) 1 0 = some ([], some 3) := by decide +kernel
example : runx (.fin 1) 1 1 = some ([4], some 3) := by decide +kernel
example : runx (.fin 1) 3 3 = some ([2, 5, 1], some 3) := by decide +kernel
example : runx (.fin 2) 1 2 = some ([0, 3], none) := by decide +kernel
example : runx (.fin 3) 7 0 = some ([], none) := by decide +kernel

/-! ### the code before `fix: Scanner::max prunes better hits …`: the invariant `Bd` is what fails

  `maxCandOld` is the candidate loop as it was (`best_discrete = dscore`, an OVER-estimate of the
  best score).  On the instance below it returns position 1 (score 1/50) although position 6
  scores 1/10: after accepting position 1 the bound is its 8-bit score 2 = ⌈0.1⌉ + ⌈0.1⌉, and the
  block holding position 6, whose 8-bit score is 1 = ⌈1⌉ + 0, is skipped. -/

/-- the candidate loop of `max` before the fix (only the bound update differs) -/
def maxCandOld {α : Type} [ScanScalar α] {C : Nat} (k : Kernels α C) (t : α) (row : Nat) (ds : Scores C) :
    List (Nat × Nat) → Option (Hit α) × UInt8 → Except String (Option (Hit α) × UInt8)
  | [], s => .ok s
  | (r, c) :: cs, (best, bd) =>
    let dscore := ds.data.get r c
    if dscore ≥ bd then
      let index := c * k.seqRows + row + r
      if index < ds.maxIndex then
        match k.scorePosition index with
        | .error e => .error e
        | .ok score =>
          match best with
          | some hit =>
            if gt score hit.score || (ScanScalar.eq score hit.score && decide (index > hit.position)) then
              maxCandOld k t row ds cs (some ⟨index, score⟩, dscore)
            else maxCandOld k t row ds cs (best, bd)
          | none =>
            if ge score t then maxCandOld k t row ds cs (some ⟨index, score⟩, bd)
            else maxCandOld k t row ds cs (best, bd)
      else maxCandOld k t row ds cs (best, bd)
    else maxCandOld k t row ds cs (best, bd)

def maxLoopOld {α : Type} [ScanScalar α] {C : Nat} (k : Kernels α C) (t : α) (block : Nat) :
    Nat → MaxState α → Except String (MaxState α)
  | 0, _ => .error "no-progress"
  | fuel + 1, s =>
    if s.row < k.seqRows then
      match k.scoreRows s.row (min (s.row + block) k.seqRows) with
      | .error e => .error e
      | .ok ds =>
        let r : Except String (Option (Hit α) × UInt8) :=
          match k.max ds with
          | some m =>
            if m ≥ s.bd then maxCandOld k t s.row ds (k.threshold ds s.bd) (s.best, s.bd)
            else .ok (s.best, s.bd)
          | none => .ok (s.best, s.bd)
        match r with
        | .error e => .error e
        | .ok (best, bd) => maxLoopOld k t block fuel ⟨s.row + block, best, bd⟩
    else .ok s

/-- rows `[0, 1/100, 1/10, 20 | −∞]` and `[0, 1/100, 0, 11/2 | −∞]`: `factor = 25.5/255 = 1/10` -/
def pnt : Mat ERat 5 := Mat.ofFn 2 fun i j =>
  if j = 4 then .bot else
  if i = 0 then (if j = 1 then .fin (1/100) else if j = 2 then .fin (1/10) else if j = 3 then .fin 20 else .fin 0)
  else (if j = 1 then .fin (1/100) else if j = 3 then .fin (11/2) else .fin 0)

/-- `A C C A A A T A`: position 1 (`C C`) scores 1/50, position 6 (`T A`) scores 1/10 -/
def snt : List Nat := [0, 1, 1, 0, 0, 0, 2, 0]
def stnt : Striped 2 := (stripeGeneric 4 snt Striped.empty).configureWrap 4 1

/-- (answer of the loop before the fix, answer of `max` after it), positions only; block size 1,
    threshold 0 -/
def runnt : Option (Option Nat × Option Nat) :=
  match toDiscrete pnt with
  | .ok dm =>
    let k := kernels pnt dm stnt .generic .saturating
    match maxLoopOld k (.fin 0) 1 (k.seqRows + 1) ⟨0, none, k.scale (.fin 0)⟩,
          Scanner.max k (.fin 0) 1 State.init with
    | .ok s, .ok r => some (s.best.map (·.position), r.map (·.position))
    | _, _ => none
  | .error _ => none

/-- the old bound update loses the best hit on this input; `max` after the fix finds it -/
theorem old_bound_counterexample :
    runnt = some (some 1, some 6) ∧
      scoreAt pnt snt 1 = .fin (1/50) ∧ scoreAt pnt snt 6 = .fin (1/10) := by
  refine ⟨by decide +kernel, by decide +kernel, by decide +kernel⟩

end concrete

end C03
end LMV
