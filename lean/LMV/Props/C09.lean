/-
  C09 — Count → frequency → weight → log-odds conversions obey their definitions.

  Models: LMV.Model.Pwm over the carriers of LMV.Model.PwmScalar (abstract / `Rat` / `Float32`).

  Guards the real code relies on are explicit hypotheses (row total ≠ 0, symbols < K, K ≥ 2,
  window inside the non-wildcard columns).  Non-vacuity examples: in (1) after the `from_sequences`
  theorems, at the end of (4), (5) and (6); the one of (6) instantiates the theorems of (3);
  sections (2) and (7) have none.
-/
import LMV.Model.Pwm
import LMV.Model.Abc
import LMV.Lemmas.Sums
import Mathlib.Algebra.Order.BigOperators.Group.List
import Mathlib.Algebra.Order.Field.Basic
import Mathlib.Tactic.Ring
import Mathlib.Tactic.Linarith
import Mathlib.Tactic.FieldSimp

namespace LMV
namespace C09

open Pwm

/-! ### (1) counting (Nat) -/

section counting
variable {K : Nat}

/-- number of sequences having symbol `a` at position `i` -/
def colCount (seqs : List (List Nat)) (i a : Nat) : Nat :=
  (seqs.filter fun s => s[i]? == some a).length

/-- the common length `from_sequences` commits to: the length of the first sequence -/
def firstLen : List (List Nat) → Nat
  | [] => 0
  | s :: _ => s.length

theorem addSeq_rows (d : Mat Nat K) (i : Nat) (xs : List Nat) : (addSeq d i xs).rows = d.rows := by
  fun_induction addSeq d i xs with
  | case1 => rfl
  | case2 d i x xs ih => rw [ih, Mat.rows_set]

theorem addSeq_get_lt (d : Mat Nat K) (i : Nat) (xs : List Nat) (r a : Nat) (h : r < i) :
    (addSeq d i xs).get r a = d.get r a := by
  fun_induction addSeq d i xs with
  | case1 => rfl
  | case2 d i x xs ih =>
    rw [ih (Nat.lt_succ_of_lt h), Mat.get_set, if_neg fun e => Nat.ne_of_lt h e.1]

theorem addSeq_get (d : Mat Nat K) (i : Nat) (xs : List Nat) (k a : Nat)
    (hx : ∀ x ∈ xs, x < K) (hlen : i + xs.length ≤ d.rows) :
    (addSeq d i xs).get (i + k) a = d.get (i + k) a + (if xs[k]? = some a then 1 else 0) := by
  fun_induction addSeq d i xs generalizing k with
  | case1 => rfl
  | case2 d i x xs ih =>
    have hi : i < d.rows := Nat.lt_of_lt_of_le (Nat.lt_add_of_pos_right (Nat.succ_pos _)) hlen
    have hxK := hx x (List.mem_cons_self ..)
    cases k with
    | zero =>
      rw [Nat.add_zero i, addSeq_get_lt _ _ _ _ _ (Nat.lt_succ_self i), Mat.get_bump d i x hi hxK,
        List.getElem?_cons_zero]
      simp only [true_and, Option.some.injEq, eq_comm (a := a)]
    | succ k =>
      -- row `i + (k + 1) = (i + 1) + k` is not the row `i` that the first step bumps
      have hne : i + 1 + k ≠ i := Nat.ne_of_gt (Nat.lt_add_right k (Nat.lt_succ_self i))
      have hlen' : i + 1 + xs.length ≤ (d.set i x (d.get i x + 1)).rows := by
        rw [Mat.rows_set, Nat.add_right_comm]; exact hlen
      rw [← Nat.add_assoc, Nat.add_right_comm, ih k (fun y hy => hx y (List.mem_cons_of_mem _ hy)) hlen',
        Mat.get_bump d i x hi hxK, if_neg fun e => hne e.1, List.getElem?_cons_succ, Nat.add_zero]

theorem colCount_cons (s : List Nat) (rest : List (List Nat)) (i a : Nat) :
    colCount (s :: rest) i a = (if s[i]? = some a then 1 else 0) + colCount rest i a := by
  unfold colCount
  rw [List.filter_cons]
  by_cases h : s[i]? = some a
  · rw [if_pos (beq_iff_eq.mpr h), if_pos h, List.length_cons, Nat.add_comm]
  · rw [if_neg fun e => h (beq_iff_eq.mp e), if_neg h, Nat.zero_add]

/-- the matrix after the loop of `from_sequences` has added every sequence -/
def addSeqs (d : Mat Nat K) (seqs : List (List Nat)) : Mat Nat K := seqs.foldl (fun d s => addSeq d 0 s) d

theorem addSeqs_rows (d : Mat Nat K) (seqs : List (List Nat)) : (addSeqs d seqs).rows = d.rows := by
  induction seqs generalizing d with
  | nil => rfl
  | cons s rest ih => rw [addSeqs, List.foldl_cons, ← addSeqs, ih, addSeq_rows]

theorem addSeqs_get (d : Mat Nat K) (seqs : List (List Nat)) (hlen : ∀ s ∈ seqs, s.length = d.rows)
    (hsym : ∀ s ∈ seqs, ∀ x ∈ s, x < K) (r a : Nat) :
    (addSeqs d seqs).get r a = d.get r a + colCount seqs r a := by
  induction seqs generalizing d with
  | nil => rfl
  | cons s rest ih =>
    have h := addSeq_get d 0 s r a (hsym s (List.mem_cons_self ..))
      (by rw [Nat.zero_add]; exact Nat.le_of_eq (hlen s (List.mem_cons_self ..)))
    rw [Nat.zero_add] at h
    rw [addSeqs, List.foldl_cons, ← addSeqs,
      ih _ (fun t ht => by rw [addSeq_rows]; exact hlen t (List.mem_cons_of_mem _ ht))
        (fun t ht => hsym t (List.mem_cons_of_mem _ ht)), h, colCount_cons, Nat.add_assoc]

theorem fromSeqsLoop_some (d : Mat Nat K) (n : Nat) (seqs : List (List Nat)) :
    fromSeqsLoop (some d) n seqs =
      if ∀ s ∈ seqs, s.length = d.rows then .ok (some (addSeqs d seqs), n + seqs.length)
      else .error () := by
  induction seqs generalizing d n with
  | nil => rw [if_pos (fun _ h => nomatch h)]; rfl
  | cons s rest ih =>
    rw [fromSeqsLoop]
    by_cases hs : s.length = d.rows
    · rw [if_neg (not_not_intro hs), ih, addSeq_rows, List.length_cons, Nat.add_assoc, Nat.add_comm 1]
      exact if_congr (by rw [List.forall_mem_cons, and_iff_right hs]) rfl rfl
    · rw [if_pos hs, if_neg fun h => hs (h s (List.mem_cons_self ..))]

theorem fromSequences_eq (seqs : List (List Nat)) :
    fromSequences (K := K) seqs =
      if ∀ s ∈ seqs, s.length = firstLen seqs then
        .ok ⟨addSeqs ((Mat.empty : Mat Nat K).resize (firstLen seqs) 0) seqs, seqs.length⟩
      else .error () := by
  cases seqs with
  | nil => rw [if_pos (fun _ h => nomatch h)]; rfl
  | cons s rest =>
    have : fromSeqsLoop (K := K) none 0 (s :: rest)
        = fromSeqsLoop (some ((Mat.empty : Mat Nat K).resize s.length 0)) 0 (s :: rest) := rfl
    rw [fromSequences, this, fromSeqsLoop_some, Mat.rows_resize]
    show _ = if ∀ t ∈ s :: rest, t.length = s.length then _ else _
    by_cases h : ∀ t ∈ s :: rest, t.length = s.length
    · rw [if_pos h, if_pos h, Nat.zero_add]; rfl
    · rw [if_neg h, if_neg h]

/-- **counting**: equal-length sequences are accepted, the matrix has one row per position,
    `sequence_count` is the number of sequences and entry `(i, a)` is the number of sequences with
    symbol `a` at position `i` -/
theorem fromSequences_ok (seqs : List (List Nat)) (hsym : ∀ s ∈ seqs, ∀ x ∈ s, x < K)
    (hlen : ∀ s ∈ seqs, s.length = firstLen seqs) :
    ∃ c, fromSequences (K := K) seqs = .ok c ∧ c.n = seqs.length ∧ c.data.rows = firstLen seqs ∧
      ∀ i a, i < firstLen seqs → a < K → c.data.get i a = colCount seqs i a := by
  refine ⟨_, by rw [fromSequences_eq, if_pos hlen], rfl, by rw [addSeqs_rows, Mat.rows_resize], ?_⟩
  intro i a hi ha
  rw [addSeqs_get _ seqs (by rwa [Mat.rows_resize]) hsym]
  simp [hi, ha]

/-- **unequal lengths are rejected** (`InvalidData`) -/
theorem fromSequences_err (seqs : List (List Nat)) (h : ∃ s ∈ seqs, s.length ≠ firstLen seqs) :
    fromSequences (K := K) seqs = .error () := by
  rw [fromSequences_eq, if_neg fun hall => h.elim fun s hs => hs.2 (hall s hs.1)]

/-- acceptance is exactly "all sequences have the same length" -/
theorem fromSequences_ok_iff (seqs : List (List Nat)) :
    (∃ c, fromSequences (K := K) seqs = .ok c) ↔ ∀ s ∈ seqs, s.length = firstLen seqs := by
  rw [fromSequences_eq]
  by_cases h : ∀ s ∈ seqs, s.length = firstLen seqs
  · rw [if_pos h]; exact ⟨fun _ => h, fun _ => ⟨_, rfl⟩⟩
  · rw [if_neg h]; exact ⟨fun ⟨_, hc⟩ => (nomatch hc), fun h' => absurd h' h⟩

/- non-vacuity: three DNA sequences of length 2 (counted), and a set with a shorter one (rejected) -/
example :
    (match fromSequences (K := 5) [[0, 1], [0, 3], [2, 1]] with
      | .ok c => c.n == 3 && c.data.rows == 2 && c.data.get 0 0 == 2 && c.data.get 1 1 == 2 &&
          c.data.get 1 3 == 1
      | .error _ => false) = true ∧
    colCount [[0, 1], [0, 3], [2, 1]] 0 0 = 2 ∧
    (match fromSequences (K := 5) [[0, 1], [0], [2, 1]] with | .ok _ => false | .error _ => true) = true := by
  decide +kernel

/-- `CountMatrix::new` never rejects; its `sequence_count` is the largest row sum: an upper bound
    of every row sum, attained by some row when there is one -/
theorem countNew_n (data : Mat Nat K) :
    (countNew data).data = data ∧
    (∀ i, i < data.rows → natSum K (data.get i) ≤ (countNew data).n) ∧
    (0 < data.rows → ∃ i, i < data.rows ∧ natSum K (data.get i) = (countNew data).n) ∧
    (data.rows = 0 → (countNew data).n = 0) := by
  fun_cases countNew data with
  | case1 h0 =>
    exact ⟨rfl, fun i hi => absurd hi (h0 ▸ Nat.not_lt_zero i), fun hp => absurd h0 (Nat.ne_of_gt hp),
      fun _ => rfl⟩
  | case2 h0 =>
    -- `foldl max 0` is the maximum of `0 :: l`: a member and an upper bound
    obtain ⟨hmem, hle⟩ := List.max?_eq_some_iff.mp (show (0 :: (List.range data.rows).map
      fun i => natSum K (data.get i)).max? = some _ from rfl)
    have hrow : ∀ i, i < data.rows → natSum K (data.get i) ≤ _ := fun i hi =>
      hle _ (List.mem_cons_of_mem _ (List.mem_map.mpr ⟨i, List.mem_range.mpr hi, rfl⟩))
    refine ⟨rfl, hrow, fun hpos => ?_, fun h => absurd h h0⟩
    rcases List.mem_cons.mp hmem with h | h
    · -- the maximum is 0: every row sums to 0, row 0 attains it
      refine ⟨0, hpos, Nat.le_antisymm (hrow 0 hpos) ?_⟩
      rw [h]; exact Nat.zero_le _
    · obtain ⟨i, hi, e⟩ := List.mem_map.mp h
      exact ⟨i, List.mem_range.mp hi, e⟩

end counting

/-! ### (2) structural theorems: any carrier, no laws beyond the ones named -/

section structural
variable {α : Type} [Inhabited α] [Arith α] [Logs α] {K : Nat}

omit [Inhabited α] [Logs α] in
theorem toFreq_rows (c : Mat Nat K) (p : Nat → α) :
    (toFreq c p).rows = c.rows := by simp [toFreq]

omit [Logs α] in
theorem toWeight_get (m : Mat α K) (bg : Nat → α) (i j : Nat)
    (hi : i < m.rows) (hj : j < K) :
    (toWeight m bg).get i j =
      if Arith.beq (bg j) zero then zero else div (m.get i j) (bg j) := by
  simp [toWeight, hi, hj]

theorem intoScoring_get (m : Mat α K) (bg : Nat → α) (i j : Nat) (hi : i < m.rows) (hj : j < K) :
    (intoScoring m bg).get i j =
      if Arith.beq (bg j) zero then negInf else log2 (div (m.get i j) (bg j)) := by
  simp [intoScoring, hi, hj]

theorem twoStep_get (m : Mat α K) (bg : Nat → α) (base : α) (i j : Nat) (hi : i < m.rows)
    (hj : j < K) :
    (toScoringWithBase (toWeight m bg) base).get i j =
      logBase base (if Arith.beq (bg j) zero then zero else div (m.get i j) (bg j)) := by
  simp [toScoringWithBase, toWeight, hi, hj]

omit [Inhabited α] in
theorem logBase_cases (base x : α) :
    (Arith.beq base (Arith.ofNat 2) = true → logBase base x = log2 x) ∧
    (Arith.beq base (Arith.ofNat 2) = false → Arith.beq base (Arith.ofNat 10) = true →
        logBase base x = log10 x) ∧
    (Arith.beq base (Arith.ofNat 2) = false → Arith.beq base (Arith.ofNat 10) = false →
        logBase base x = div (ln x) (ln base)) := by
  unfold logBase
  refine ⟨fun h => by simp [h], fun h h' => by simp [h, h'], fun h h' => by simp [h, h']⟩

/-- **one-step and two-step scoring are the same operation tree** `log2 (x / f)`: cell for cell
    the same expression over any carrier, given only that `2.0 == 2.0` and `log2 0.0 = -∞` (the
    value the zero-background convention of `to_weight` turns into under `log2`) -/
theorem oneStep_eq_twoStep (h2 : Arith.beq (Arith.ofNat 2 : α) (Arith.ofNat 2) = true)
    (hlog : log2 (zero : α) = negInf) (m : Mat α K) (bg : Nat → α) :
    intoScoring m bg = toScoring (toWeight m bg) := by
  apply Mat.ext
  · simp [intoScoring, toScoring, toScoringWithBase, toWeight]
  · intro i j hi hj
    have hi' : i < m.rows := by simpa [intoScoring] using hi
    unfold toScoring
    rw [intoScoring_get m bg i j hi' hj, twoStep_get m bg _ i j hi' hj, (logBase_cases _ _).1 h2]
    by_cases hb : Arith.beq (bg j) zero = true
    · simp [hb, hlog]
    · simp [hb]

/-- where the background is not zero the two routes are the same tree with no law beyond
    `2.0 == 2.0` -/
theorem oneStep_eq_twoStep_cell (h2 : Arith.beq (Arith.ofNat 2 : α) (Arith.ofNat 2) = true)
    (m : Mat α K) (bg : Nat → α) (i j : Nat) (hi : i < m.rows) (hj : j < K)
    (hb : Arith.beq (bg j) zero = false) :
    (intoScoring m bg).get i j = log2 (div (m.get i j) (bg j)) ∧
    (toScoring (toWeight m bg)).get i j = log2 (div (m.get i j) (bg j)) := by
  unfold toScoring
  rw [intoScoring_get m bg i j hi hj, twoStep_get m bg _ i j hi hj, (logBase_cases _ _).1 h2]
  simp [hb]

/-- **`-∞` exactly where the background is zero**, structurally: the constant `NEG_INFINITY` is
    stored in the cells of a zero-background column and in no other cell (every other cell holds
    `log2 (x / f)`) -/
theorem negInf_where_bg_zero (m : Mat α K) (bg : Nat → α) (i j : Nat) (hi : i < m.rows) (hj : j < K) :
    (Arith.beq (bg j) zero = true → (intoScoring m bg).get i j = negInf) ∧
    (Arith.beq (bg j) zero = false → (intoScoring m bg).get i j = log2 (div (m.get i j) (bg j))) := by
  rw [intoScoring_get m bg i j hi hj]
  exact ⟨fun h => by simp [h], fun h => by simp [h]⟩

/-- … and as an equivalence on values, for a carrier in which a logarithm is `-∞` only at zero and
    a quotient by a non-zero number is zero only for a zero numerator (both laws named, both true
    of the reals): a cell with a non-zero frequency scores `-∞` iff its background is zero -/
theorem negInf_iff_bg_zero
    (hlog : ∀ y : α, log2 y = negInf → y = zero)
    (hdiv : ∀ x f : α, Arith.beq f zero = false → div x f = zero → x = zero)
    (m : Mat α K) (bg : Nat → α) (i j : Nat) (hi : i < m.rows) (hj : j < K)
    (hx : m.get i j ≠ zero) :
    (intoScoring m bg).get i j = negInf ↔ Arith.beq (bg j) zero = true := by
  rw [intoScoring_get m bg i j hi hj]
  by_cases hb : Arith.beq (bg j) zero = true
  · simp [hb]
  · have hb' : Arith.beq (bg j) zero = false := by simpa using hb
    simp only [hb', Bool.false_eq_true, if_false, iff_false]
    intro h
    exact hx (hdiv _ _ hb' (hlog _ h))

end structural

/-! ### (3) exact arithmetic (`Rat`): frequencies and weights -/

section exact
variable {K : Nat}

/-! the `Arith Rat` instance in ordinary notation -/
@[simp] theorem rat_zero : (Arith.zero : Rat) = 0 := rfl
@[simp] theorem rat_sumZero : (Arith.sumZero : Rat) = 0 := rfl
@[simp] theorem rat_one : (Arith.one : Rat) = 1 := rfl
@[simp] theorem rat_hundredth : (Arith.hundredth : Rat) = 1 / 100 := rfl
@[simp] theorem rat_ofNat (n : Nat) : (Arith.ofNat n : Rat) = (n : Rat) := rfl
@[simp] theorem rat_add (a b : Rat) : Arith.add a b = a + b := rfl
@[simp] theorem rat_sub (a b : Rat) : Arith.sub a b = a - b := rfl
@[simp] theorem rat_mul (a b : Rat) : Arith.mul a b = a * b := rfl
@[simp] theorem rat_div (a b : Rat) : Arith.div a b = a / b := rfl
@[simp] theorem rat_beq (a b : Rat) : Arith.beq a b = decide (a = b) := rfl
@[simp] theorem rat_lt (a b : Rat) : Arith.lt a b = decide (a < b) := rfl
@[simp] theorem rat_le (a b : Rat) : Arith.le a b = decide (a ≤ b) := rfl
@[simp] theorem rat_abs (a : Rat) : Arith.abs a = |a| := by
  show (if a < 0 then -a else a) = |a|
  by_cases h : a < 0
  · rw [if_pos h, abs_of_neg h]
  · rw [if_neg h, abs_of_nonneg (not_lt.mp h)]

theorem foldl_add_eq_sum {ι M : Type} [AddMonoid M] (l : List ι) (f : ι → M) :
    l.foldl (fun acc j => acc + f j) 0 = (l.map f).sum := by
  rw [List.sum_eq_foldl, List.foldl_map]

theorem sumRange_rat (n : Nat) (f : Nat → Rat) : sumRange n f = ((List.range n).map f).sum :=
  foldl_add_eq_sum _ f

theorem natSum_eq (n : Nat) (f : Nat → Nat) : natSum n f = ((List.range n).map f).sum :=
  foldl_add_eq_sum _ f

theorem sum_map_div (l : List Nat) (f : Nat → Rat) (t : Rat) :
    (l.map fun j => f j / t).sum = (l.map f).sum / t := by
  induction l with
  | nil => simp
  | cons x xs ih => simp only [List.map_cons, List.sum_cons, ih]; ring

theorem sum_map_cast (l : List Nat) (f : Nat → Nat) :
    (l.map fun j => (f j : Rat)).sum = ((l.map f).sum : Nat) := by
  induction l with
  | nil => simp
  | cons x xs ih => simp only [List.map_cons, List.sum_cons, ih]; push_cast; ring

/-- the row total `Σ_j (count[i][j] + pseudo[j])` -/
def rowTotal (c : Mat Nat K) (p : Nat → Rat) (i : Nat) : Rat :=
  ((List.range K).map fun j => (c.get i j : Rat) + p j).sum

/-- **frequency = (count + pseudocount) / row total** (the guard `total ≠ 0` is the one the real
    code relies on: with a zero total the `f32` result is NaN) -/
theorem freq_eq (c : Mat Nat K) (p : Nat → Rat) (i j : Nat) (hi : i < c.rows) (hj : j < K)
    (_ht : rowTotal c p i ≠ 0) :
    (toFreq c p).get i j = ((c.get i j : Rat) + p j) / rowTotal c p i := by
  simp only [toFreq, Mat.get_ofFn, hi, hj, and_self, if_true]
  rw [sumRange_rat]
  rfl

/-- the guard `row total ≠ 0` holds as soon as the pseudocounts are non-negative and one cell of
    the row has a positive count or pseudocount -/
theorem rowTotal_ne_zero {K : Nat} (c : Mat Nat K) (p : Nat → Rat) (i : Nat)
    (hp : ∀ j, j < K → 0 ≤ p j) (hpos : ∃ j, j < K ∧ 0 < (c.get i j : Rat) + p j) :
    rowTotal c p i ≠ 0 := by
  rcases hpos with ⟨j, hj, h⟩
  have hmem : (c.get i j : Rat) + p j ∈ (List.range K).map fun j => (c.get i j : Rat) + p j :=
    List.mem_map.mpr ⟨j, List.mem_range.mpr hj, rfl⟩
  have hnn : ∀ x ∈ (List.range K).map (fun j => (c.get i j : Rat) + p j), 0 ≤ x := by
    intro x hx
    rcases List.mem_map.mp hx with ⟨k, hk, rfl⟩
    exact add_nonneg (Nat.cast_nonneg _) (hp k (List.mem_range.mp hk))
  exact (lt_of_lt_of_le h (List.single_le_sum hnn _ hmem)).ne'

/-- **every frequency row sums to one** -/
theorem freq_row_sum (c : Mat Nat K) (p : Nat → Rat) (i : Nat) (hi : i < c.rows)
    (ht : rowTotal c p i ≠ 0) :
    sumRange K ((toFreq c p).get i) = 1 := by
  rw [sumRange_rat]
  have : (List.range K).map ((toFreq c p).get i)
      = (List.range K).map (fun j => ((c.get i j : Rat) + p j) / rowTotal c p i) := by
    apply List.map_congr_left
    intro j hj
    exact freq_eq c p i j hi (List.mem_range.mp hj) ht
  rw [this, sum_map_div]
  exact div_self ht

/-- **weight = frequency / background, and 0 where the background is 0** -/
theorem weight_rat (m : Mat Rat K) (bg : Nat → Rat) (i j : Nat) (hi : i < m.rows) (hj : j < K) :
    (bg j = 0 → (toWeight m bg).get i j = 0) ∧
    (bg j ≠ 0 → (toWeight m bg).get i j = m.get i j / bg j) := by
  rw [toWeight_get m bg i j hi hj]
  constructor
  · intro h; simp [h]
  · intro h; simp [h]

/-- the two stages composed, from the counts -/
theorem weight_of_counts (c : Mat Nat K) (p bg : Nat → Rat) (i j : Nat) (hi : i < c.rows)
    (hj : j < K) (ht : rowTotal c p i ≠ 0) :
    (bg j = 0 → (toWeight (toFreq c p) bg).get i j = 0) ∧
    (bg j ≠ 0 → (toWeight (toFreq c p) bg).get i j
        = ((c.get i j : Rat) + p j) / rowTotal c p i / bg j) := by
  have h := weight_rat (toFreq c p) bg i j (by rw [toFreq_rows]; exact hi) hj
  rw [freq_eq c p i j hi hj ht] at h
  exact h

/-- `rescale` (with the zero odds-ratio convention for null background columns, the library's
    `fix: WeightMatrix::rescale keeps …`): from odds against `old` to odds against `new`, zero where `new` is
    zero; where `old` is zero the information is gone (the odds stay zero) -/
theorem rescale_rat (f : Mat Rat K) (old new : Nat → Rat) (i j : Nat) (hi : i < f.rows)
    (hj : j < K) :
    (new j = 0 → (rescale (toWeight f old) old new).get i j = 0) ∧
    (new j ≠ 0 → old j ≠ 0 → (rescale (toWeight f old) old new).get i j = f.get i j / new j) := by
  have hw := weight_rat f old i j hi hj
  have hr : (toWeight f old).rows = f.rows := by rw [toWeight, Mat.rows_ofFn]
  unfold rescale
  by_cases hd : bgDiffers K new old = true
  · simp only [hd, if_true, Mat.get_ofFn, hr, hi, hj, and_self]
    constructor
    · intro h; simp [h]
    · intro h h'
      rw [hw.2 h']
      simp only [rat_beq, rat_zero, rat_mul, rat_div, h, decide_false, Bool.false_eq_true, if_false]
      exact div_mul_div_cancel₀ h'
  · rw [if_neg hd]
    -- the backgrounds are equal on `0..K`
    rw [bgDiffers, Bool.not_eq_true, Bool.not_eq_false'] at hd
    have hj' : new j = old j := of_decide_eq_true (List.all_eq_true.mp hd j (List.mem_range.mpr hj))
    constructor
    · intro h; exact hw.1 (hj' ▸ h)
    · intro _ h'; rw [hw.2 h', hj']

end exact

/-! ### (4) validation (exact) -/

section validation
variable {K : Nat}

theorem bgNewLoop_eq (fs : List Rat) (s : Rat) :
    bgNewLoop fs s = if ∀ f ∈ fs, 0 ≤ f ∧ f ≤ 1 then .ok (s + fs.sum) else .error () := by
  have hc : ∀ f : Rat, (!(Arith.le zero f && Arith.le f one)) = true ↔ ¬ (0 ≤ f ∧ f ≤ 1) := fun f => by
    simp only [rat_le, rat_zero, rat_one, Bool.not_eq_true', Bool.and_eq_false_iff,
      decide_eq_false_iff_not, not_and_or]
  fun_induction bgNewLoop fs s with
  | case1 _ => rw [if_pos (fun _ h => nomatch h), List.sum_nil, add_zero]
  -- `f` fails the range test: rejected
  | case2 f _ _ h => exact (if_neg fun hall => (hc f).mp h (hall f (List.mem_cons_self ..))).symm
  | case3 f _ _ h ih =>
    have hf : 0 ≤ f ∧ f ≤ 1 := not_not.mp (mt (hc f).mpr h)
    rw [ih, List.sum_cons, rat_add, add_assoc]
    simp only [List.forall_mem_cons, hf, true_and]

/-! a validation that answers `if c then Ok(x) else Err(InvalidData)` -/

theorem ite_ok_iff {c : Prop} [Decidable c] {β : Type} (x : β) :
    (if c then (Except.ok x : Except Unit β) else .error ()) = .ok x ↔ c := by
  by_cases h : c
  · rw [if_pos h]; exact ⟨fun _ => h, fun _ => rfl⟩
  · rw [if_neg h]; exact ⟨fun e => (nomatch e), fun e => absurd e h⟩

theorem ite_err_iff {c : Prop} [Decidable c] {β : Type} (x : β) :
    (if c then (Except.ok x : Except Unit β) else .error ()) = .error () ↔ ¬ c := by
  by_cases h : c
  · rw [if_pos h]; exact ⟨fun e => (nomatch e), fun e => absurd h e⟩
  · rw [if_neg h]; exact ⟨fun _ => h, fun _ => rfl⟩

/-- **`Background::new` accepts exactly the vectors with every entry in [0,1] and sum one**, and
    rejects (`InvalidData`) everything else -/
theorem bgNew_eq (fs : List Rat) :
    bgNew fs = if (∀ f ∈ fs, 0 ≤ f ∧ f ≤ 1) ∧ fs.sum = 1 then .ok fs else .error () := by
  unfold bgNew
  rw [bgNewLoop_eq]
  by_cases h : ∀ f ∈ fs, 0 ≤ f ∧ f ≤ 1
  · rw [if_pos h]
    simp only [rat_zero, zero_add, rat_beq, rat_one, Bool.not_eq_true', decide_eq_false_iff_not, ite_not]
    by_cases hs : fs.sum = 1
    · rw [if_pos hs, if_pos ⟨h, hs⟩]
    · rw [if_neg hs, if_neg (fun hh => hs hh.2)]
  · rw [if_neg h, if_neg (fun hh => h hh.1)]

theorem bgNew_ok_iff (fs : List Rat) :
    bgNew fs = .ok fs ↔ (∀ f ∈ fs, 0 ≤ f ∧ f ≤ 1) ∧ fs.sum = 1 := by
  rw [bgNew_eq]; exact ite_ok_iff fs

theorem bgNew_err_iff (fs : List Rat) :
    bgNew fs = .error () ↔ ¬ ((∀ f ∈ fs, 0 ≤ f ∧ f ≤ 1) ∧ fs.sum = 1) := by
  rw [bgNew_eq]; exact ite_err_iff fs

/-- **`FrequencyMatrix::new` accepts exactly the matrices whose every row is within 0.01 of one** -/
theorem freqNew_eq (data : Mat Rat K) :
    freqNew data = if ∀ i, i < data.rows → |((List.range K).map (data.get i)).sum - 1| < 1 / 100
      then .ok data else .error () := by
  unfold freqNew
  simp only [List.all_eq_true, List.mem_range, sumRange_rat, rat_lt, rat_abs, rat_sub, rat_one,
    rat_hundredth, decide_eq_true_eq]

theorem freqNew_ok_iff (data : Mat Rat K) :
    freqNew data = .ok data ↔
      ∀ i, i < data.rows → |((List.range K).map (data.get i)).sum - 1| < 1 / 100 := by
  rw [freqNew_eq]; exact ite_ok_iff data

theorem freqNew_err_iff (data : Mat Rat K) :
    freqNew data = .error () ↔
      ∃ i, i < data.rows ∧ ¬ |((List.range K).map (data.get i)).sum - 1| < 1 / 100 := by
  rw [freqNew_eq, ite_err_iff]
  simp only [not_forall, exists_prop]

/-- what `to_freq` produces is a valid frequency matrix (every row total non-zero) -/
theorem toFreq_valid (c : Mat Nat K) (p : Nat → Rat) (ht : ∀ i, i < c.rows → rowTotal c p i ≠ 0) :
    freqNew (toFreq c p) = .ok (toFreq c p) := by
  rw [freqNew_ok_iff]
  intro i hi
  rw [toFreq_rows] at hi
  rw [← sumRange_rat, freq_row_sum c p i hi (ht i hi)]
  norm_num

example : bgNew [(1 : Rat) / 4, 1 / 4, 1 / 2, 0, 0] = .ok [1 / 4, 1 / 4, 1 / 2, 0, 0] := by
  decide +kernel
example : bgNew [(3 : Rat) / 4, 1 / 2, -1 / 4, 0, 0] = .error () := by decide +kernel
example : bgNew [(1 : Rat) / 4, 1 / 4, 1 / 4, 0, 0] = .error () := by decide +kernel

end validation

/-! ### (5) exact: every window without wildcard scores between `min_score` and `max_score` -/

section bounds
variable {K : Nat}

theorem pcmp_rat (a b : Rat) :
    pcmp a b = some (if a < b then .lt else if a = b then .eq else .gt) := by
  unfold pcmp
  by_cases h1 : a < b
  · simp [h1]
  · by_cases h2 : a = b
    · simp [h2]
    · have : b < a := lt_of_le_of_ne (not_lt.mp h1) (fun h => h2 h.symm)
      simp [h1, h2, this]

/-- the closure of `min_by` keeps a lower bound of its two arguments, that of `max_by` an upper
    bound -/
theorem keep_min_max (x y : Rat) (o : Ordering) (h : pcmp x y = some o) :
    ((if minKeepY o then y else x) ≤ x ∧ (if minKeepY o then y else x) ≤ y) ∧
    ((if maxKeepY o then y else x) ≥ x ∧ (if maxKeepY o then y else x) ≥ y) := by
  rw [pcmp_rat] at h; cases h
  unfold minKeepY maxKeepY
  -- in each case the two `if`s over the computed `Ordering` reduce by evaluation
  rcases lt_trichotomy x y with h | h | h
  · rw [if_pos h]; exact ⟨⟨le_refl x, h.le⟩, h.le, le_refl y⟩
  · subst h; rw [if_neg (lt_irrefl x), if_pos rfl]; exact ⟨⟨le_refl x, le_refl x⟩, le_refl x, le_refl x⟩
  · rw [if_neg h.not_gt, if_neg h.ne']; exact ⟨⟨h.le, le_refl y⟩, le_refl x, h.le⟩

/-! `min_score` and `max_score` are the same computation up to the direction of the order: the
    three lemmas of this section are about a reflexive transitive `r` that the closure's choice
    respects, used with `≤` for `min_by` and with `≥` for `max_by`. -/

section order
variable (keepY : Ordering → Bool) (r : Rat → Rat → Prop) (hrefl : ∀ a, r a a)
  (htrans : ∀ a b c, r a b → r b c → r a c)
  (hkeep : ∀ x y o, pcmp x y = some o → r (if keepY o then y else x) x ∧ r (if keepY o then y else x) y)
include hrefl htrans hkeep

theorem reduceBy_bound (x : Rat) (ys : List Rat) :
    ∃ v, reduceBy keepY x ys = .ok v ∧ r v x ∧ ∀ y ∈ ys, r v y := by
  fun_induction reduceBy keepY x ys with
  | case1 x => exact ⟨x, rfl, hrefl x, fun _ h => nomatch h⟩
  | case2 _ _ _ h => rw [pcmp_rat] at h; cases h  -- `partial_cmp` is never `None` at `Rat`
  | case3 x y _ o h ih =>
    obtain ⟨hx, hy⟩ := hkeep x y o h
    obtain ⟨v, e, hv, hall⟩ := ih
    refine ⟨v, e, htrans _ _ _ hv hx, fun w hw => ?_⟩
    rcases List.mem_cons.mp hw with rfl | hw'
    · exact htrans _ _ _ hv hy
    · exact hall w hw'

theorem rowExt_bound (m : Mat Rat K) (i : Nat) (hK : 2 ≤ K) :
    ∃ v, rowExt keepY m i = .ok v ∧ ∀ a, a < K - 1 → r v (m.get i a) := by
  unfold rowExt
  obtain ⟨n, hn⟩ : ∃ n, K - 1 = n + 1 := Nat.exists_eq_add_one.mpr (Nat.sub_pos_of_lt hK)
  rw [hn, List.range_succ_eq_map, List.map_cons]
  obtain ⟨v, e, hv, hall⟩ := reduceBy_bound keepY r hrefl htrans hkeep (m.get i 0)
    ((List.map Nat.succ (List.range n)).map (m.get i))
  refine ⟨v, e, fun a ha => ?_⟩
  cases a with
  | zero => exact hv
  | succ a =>
    have ha' : a ∈ List.range n := List.mem_range.mpr (Nat.lt_of_succ_lt_succ ha)
    exact hall _ (List.mem_map.mpr ⟨a + 1, List.mem_map.mpr ⟨a, ha', rfl⟩, rfl⟩)

omit hrefl htrans hkeep in
theorem sumRows_rel (hadd : ∀ a a' v w, r a a' → r v w → r (a + v) (a' + w))
    (g : Nat → Except String Rat) (w : Nat → Rat) (l : List Nat) (acc acc' : Rat)
    (hg : ∀ i ∈ l, ∃ v, g i = .ok v ∧ r v (w i)) (hacc : r acc acc') :
    ∃ b, sumRows g l acc = .ok b ∧ r b (l.foldl (fun a i => a + w i) acc') := by
  induction l generalizing acc acc' with
  | nil => exact ⟨acc, rfl, hacc⟩
  | cons i is ih =>
    obtain ⟨v, e, hv⟩ := hg i (List.mem_cons_self ..)
    simp only [sumRows, e, List.foldl_cons, rat_add]
    exact ih _ _ (fun k hk => hg k (List.mem_cons_of_mem _ hk)) (hadd _ _ _ _ hacc hv)

end order

/-- **every window without wildcard scores between the reported minimum and maximum**: in exact
    arithmetic `min_score` and `max_score` do not panic and bracket `score_position` for every
    sequence whose window at `pos` contains no wildcard (symbols `< K-1`) -/
theorem min_le_score_le_max (m : Mat Rat K) (hK : 2 ≤ K) (seq : Nat → Nat) (pos : Nat)
    (hwin : ∀ j, j < m.rows → seq (pos + j) < K - 1) :
    ∃ lo hi, minScore m = .ok lo ∧ maxScore m = .ok hi ∧
      lo ≤ scorePosition m seq pos ∧ scorePosition m seq pos ≤ hi := by
  -- at `Rat`, `sumZero` (where `min_score` starts) and `zero` (where `score_position` starts) are
  -- both `0` and `Arith.add` is `+`, by `rfl`: the accumulators below start from the literal `0`
  obtain ⟨lo, e1, h1⟩ := sumRows_rel (· ≤ ·) (fun _ _ _ _ => add_le_add) (rowExt minKeepY m)
    (fun j => m.get j (seq (pos + j))) (List.range m.rows) 0 0
    (fun i hi => by
      obtain ⟨v, e, hv⟩ := rowExt_bound minKeepY (· ≤ ·) le_refl (fun _ _ _ => le_trans)
        (fun x y o h => (keep_min_max x y o h).1) m i hK
      exact ⟨v, e, hv _ (hwin i (List.mem_range.mp hi))⟩) (le_refl _)
  obtain ⟨hi, e2, h2⟩ := sumRows_rel (· ≥ ·) (fun _ _ _ _ => add_le_add) (rowExt maxKeepY m)
    (fun j => m.get j (seq (pos + j))) (List.range m.rows) 0 0
    (fun i hi => by
      obtain ⟨v, e, hv⟩ := rowExt_bound maxKeepY (· ≥ ·) le_refl (fun _ _ _ h h' => le_trans h' h)
        (fun x y o h => (keep_min_max x y o h).2) m i hK
      exact ⟨v, e, hv _ (hwin i (List.mem_range.mp hi))⟩) (le_refl _)
  exact ⟨lo, hi, e1, e2, h1, h2⟩

/-- the window score is the sum of the entries the window selects (exact) -/
theorem scorePosition_rat (m : Mat Rat K) (seq : Nat → Nat) (pos : Nat) :
    scorePosition m seq pos = ((List.range m.rows).map fun j => m.get j (seq (pos + j))).sum :=
  foldl_add_eq_sum _ _

/- non-vacuity: a 2×5 matrix, the window `[1, 3]` of `[0, 1, 3]`: -2 ≤ -1 ≤ 4 -/
def exS : Mat Rat 5 := Mat.ofFn 2 fun i j => if i = 0 then ((j : Nat) : Rat) - 1 else 2 - (j : Nat)

example : ∃ lo hi, minScore exS = .ok lo ∧ maxScore exS = .ok hi ∧
    lo ≤ scorePosition exS (fun k => [0, 1, 3].getD k 0) 1 ∧
    scorePosition exS (fun k => [0, 1, 3].getD k 0) 1 ≤ hi :=
  min_le_score_le_max exS (by norm_num) _ 1 (by
    intro j hj
    have : j < 2 := by simpa [exS] using hj
    have : j = 0 ∨ j = 1 := by omega
    rcases this with rfl | rfl <;> decide)

example :
    minScore exS = .ok (-2) ∧ maxScore exS = .ok 4 ∧
    scorePosition exS (fun k => [0, 1, 3].getD k 0) 1 = -1 := by
  decide +kernel

end bounds

/-! ### (6) backgrounds, pseudocounts and symbol counts -/

/-- the tie to the regenerated alphabet tables: `symbols()` enumerates `0..K` in order and the
    wildcard (default symbol) is the last one, for both alphabets -/
theorem tables_symbols :
    dna.symbols = List.range dna.K ∧ dna.dflt = dna.K - 1 ∧ 2 ≤ dna.K ∧
    protein.symbols = List.range protein.K ∧ protein.dflt = protein.K - 1 ∧ 2 ≤ protein.K := by
  decide +kernel

theorem countSymbolsFn_eq (seq : List Nat) (j : Nat) : countSymbolsFn seq j = countSymbol seq j := by
  unfold countSymbolsFn countSymbol
  have : ∀ (l : List Nat) (init : Nat → Nat),
      l.foldl (fun cnt c => fun j => if j = c then cnt j + 1 else cnt j) init j
        = init j + (l.filter (· == j)).length := by
    intro l
    induction l with
    | nil => simp
    | cons c cs ih =>
      intro init
      rw [List.foldl_cons, ih, List.filter_cons]
      by_cases h : c = j
      · rw [if_pos h.symm, if_pos (beq_iff_eq.mpr h), List.length_cons, Nat.add_assoc, Nat.add_comm 1]
      · rw [if_neg (Ne.symm h), if_neg fun e => h (beq_iff_eq.mp e)]
  rw [this]; simp

/-- `count_symbols` (one pass, `counts[c] += 1`) equals `count_symbol` for every symbol -/
theorem countSymbols_eq (K : Nat) (seq : List Nat) :
    countSymbols K seq = (List.range K).map (countSymbol seq) := by
  apply List.map_congr_left
  intro j _
  exact countSymbolsFn_eq seq j

/-- `Background::from_counts` rejects exactly the all-zero count vector … -/
theorem bgFromCounts_err_iff (K : Nat) (counts : Nat → Nat) :
    bgFromCounts (α := Rat) K counts = .error () ↔ ((List.range K).map counts).sum = 0 := by
  unfold bgFromCounts
  rw [natSum_eq]
  by_cases h : ((List.range K).map counts).sum = 0 <;> simp [h]

theorem div_mem_unit {a b : Rat} (ha : 0 ≤ a) (hab : a ≤ b) (hb : 0 < b) : 0 ≤ a / b ∧ a / b ≤ 1 :=
  ⟨Rat.div_nonneg ha hb.le, (div_le_one hb).mpr hab⟩

/-- … and otherwise returns `counts[j] / total`, a vector that `Background::new` accepts (every
    entry in [0,1], sum one) -/
theorem bgFromCounts_ok (K : Nat) (counts : Nat → Nat) (h : ((List.range K).map counts).sum ≠ 0) :
    ∃ l : List Rat, bgFromCounts K counts = .ok l ∧ l.length = K ∧
      (∀ j, j < K → l.getD j 0 = (counts j : Rat) / (((List.range K).map counts).sum : Nat)) ∧
      bgNew l = .ok l := by
  let total : Nat := ((List.range K).map counts).sum
  have htot : (total : Rat) ≠ 0 := Nat.cast_ne_zero.mpr h
  have hpos : (0 : Rat) < total := Nat.cast_pos.mpr (Nat.pos_of_ne_zero h)
  refine ⟨(List.range K).map fun j => (counts j : Rat) / (total : Rat), ?_, by simp, ?_, ?_⟩
  · unfold bgFromCounts
    rw [natSum_eq]
    simp only [h, if_false]
    rfl
  · intro j hj
    rw [List.getD_eq_getElem?_getD, List.getElem?_map, List.getElem?_range hj]
    rfl
  · rw [bgNew_ok_iff]
    constructor
    · intro f hf
      rcases List.mem_map.mp hf with ⟨j, hj, rfl⟩
      have hle : counts j ≤ total := by
        have : counts j ∈ (List.range K).map counts := List.mem_map.mpr ⟨j, hj, rfl⟩
        exact List.single_le_sum (fun x _ => Nat.zero_le x) _ this
      exact div_mem_unit (Nat.cast_nonneg _) (Nat.cast_le.mpr hle) hpos
    · rw [sum_map_div, sum_map_cast]
      exact div_self htot

/-- `from_sequence` counts every symbol but (unless asked to) the wildcard, then normalises -/
theorem bgFromSequence_eq (K dflt : Nat) (seq : List Nat) (unknown : Bool) :
    bgFromSequence (α := Rat) K dflt seq unknown
      = bgFromCounts K (fun c => if unknown || c != dflt then countSymbol seq c else 0) := rfl

/-- `from_sequences` is `from_sequence` of the concatenation -/
theorem bgFromSequences_eq (K dflt : Nat) (seqs : List (List Nat)) (unknown : Bool) :
    bgFromSequences (α := Rat) K dflt seqs unknown = bgFromSequence K dflt seqs.flatten unknown := by
  unfold bgFromSequences bgFromSequence
  congr 1
  funext c
  have : ∀ (l : List (List Nat)) (init : Nat → Nat),
      l.foldl (fun cnt seq => fun c => if unknown || c != dflt then cnt c + countSymbol seq c else cnt c)
        init c = if unknown || c != dflt then init c + countSymbol l.flatten c else init c := by
    intro l
    induction l with
    | nil => exact fun init => (ite_self _).symm
    | cons x xs ih =>
      simp only [List.foldl_cons, ih, List.flatten_cons]
      by_cases h : (unknown || c != dflt) = true
      · simp only [h, if_true, countSymbol, List.filter_append, List.length_append, Nat.add_assoc,
          implies_true]
      · simp [h]
  rw [this]
  by_cases h : (unknown || c != dflt) = true <;> simp [h]

theorem bgUniform_last (n : Nat) :
    bgUniform (α := Rat) (n + 1) n = List.replicate n (1 / (n : Rat)) ++ [0] := by
  rw [bgUniform, List.range_succ, List.map_append, List.map_singleton, if_neg (by simp), rat_zero,
    List.map_congr_left (g := fun _ => 1 / (n : Rat)), List.map_const', List.length_range]
  intro i hi
  rw [if_pos (by simpa using Nat.ne_of_lt (List.mem_range.mp hi))]; rfl

/-- the uniform background is a valid background -/
theorem bgUniform_valid (K : Nat) (hK : 2 ≤ K) :
    bgNew (bgUniform (α := Rat) K (K - 1)) = .ok (bgUniform K (K - 1)) := by
  obtain ⟨n, rfl⟩ : ∃ n, K = n + 1 := Nat.exists_eq_add_one.mpr (Nat.zero_lt_of_lt hK)
  have hn : (1 : Rat) ≤ n := Nat.one_le_cast.mpr (Nat.le_of_succ_le_succ hK)
  have hpos : (0 : Rat) < n := lt_of_lt_of_le one_pos hn
  rw [Nat.add_sub_cancel, bgNew_ok_iff, bgUniform_last]
  constructor
  · intro f hf
    rcases List.mem_append.mp hf with h | h
    · rw [List.eq_of_mem_replicate h]
      exact div_mem_unit zero_le_one hn hpos
    · rw [List.mem_singleton.mp h]; norm_num
  · rw [List.sum_append, List.sum_replicate, List.sum_singleton, nsmul_eq_mul, add_zero,
      mul_one_div_cancel hpos.ne']

theorem fnOf_map_range {α : Type} [Arith α] (K : Nat) (g : Nat → α) (j : Nat) (hj : j < K) :
    fnOf ((List.range K).map g) j = g j := by
  simp only [fnOf, List.getD_eq_getElem?_getD, List.getElem?_map, List.getElem?_range hj,
    Option.map_some, Option.getD_some]

/-- a scalar pseudocount applies to every symbol but the wildcard -/
theorem pseudoUniform_get (K dflt : Nat) (c : Rat) (j : Nat) (hj : j < K) :
    fnOf (pseudoUniform K dflt c) j = if j = dflt then 0 else c := by
  rw [pseudoUniform, fnOf_map_range _ _ _ hj]
  by_cases h : j = dflt <;> simp [h]

/- non-vacuity: the README motif's first column (counts 0 0 0 2 0, pseudocount 0.1, uniform bg) -/
def exC : Mat Nat 5 := Mat.ofFn 1 fun _ j => if j = 3 then 2 else 0
def exP : Nat → Rat := fnOf (pseudoUniform 5 4 (1 / 10))

example : rowTotal exC exP 0 = 12 / 5 ∧ rowTotal exC exP 0 ≠ 0 ∧
    (toFreq exC exP).get 0 3 = 7 / 8 ∧ (toFreq exC exP).get 0 0 = 1 / 24 ∧
    (toWeight (toFreq exC exP) (fnOf (bgUniform 5 4))).get 0 3 = 7 / 2 ∧
    (toWeight (toFreq exC exP) (fnOf (bgUniform 5 4))).get 0 4 = 0 ∧
    sumRange 5 ((toFreq exC exP).get 0) = 1 := by
  decide +kernel

/-! ### (7) from sequences to frequencies: the row total is `n + Σ pseudo` -/

section chain
variable {K : Nat}

/-- every position of an aligned set is counted exactly once per sequence: the counts of row `i`
    sum to the number of sequences -/
theorem colCount_row_sum (seqs : List (List Nat)) (i : Nat)
    (h : ∀ s ∈ seqs, ∃ x, s[i]? = some x ∧ x < K) :
    ((List.range K).map (colCount seqs i)).sum = seqs.length := by
  induction seqs with
  | nil =>
    have : (List.range K).map (colCount [] i) = (List.range K).map fun _ => 0 := by
      apply List.map_congr_left; intro a _; rfl
    rw [this]; simp
  | cons s rest ih =>
    obtain ⟨x, hx, hxK⟩ := h s (List.mem_cons_self ..)
    have e : (List.range K).map (colCount (s :: rest) i)
        = (List.range K).map (fun a => (if x = a then 1 else 0) + colCount rest i a) := by
      apply List.map_congr_left
      intro a _
      rw [colCount_cons, hx]
      simp
    rw [e, List.sum_map_add, sum_indicator x K, if_pos hxK,
      ih (fun t ht => h t (List.mem_cons_of_mem _ ht)), List.length_cons, Nat.add_comm]

/-- **from aligned sequences to frequencies**: with `n` equal-length sequences over the alphabet,
    the frequency of symbol `a` at position `i` is
    `(#sequences with a at i + pseudo[a]) / (n + Σ pseudo)` -/
theorem freq_of_sequences (seqs : List (List Nat)) (p : Nat → Rat)
    (hsym : ∀ s ∈ seqs, ∀ x ∈ s, x < K) (hlen : ∀ s ∈ seqs, s.length = firstLen seqs)
    (hden : (seqs.length : Rat) + ((List.range K).map p).sum ≠ 0) :
    ∃ c, fromSequences (K := K) seqs = .ok c ∧
      ∀ i a, i < firstLen seqs → a < K →
        (toFreq c.data p).get i a
          = ((colCount seqs i a : Rat) + p a) / ((seqs.length : Rat) + ((List.range K).map p).sum) := by
  obtain ⟨c, hc, _, hrows, hget⟩ := fromSequences_ok seqs hsym hlen
  refine ⟨c, hc, ?_⟩
  intro i a hi ha
  have htot : rowTotal c.data p i = (seqs.length : Rat) + ((List.range K).map p).sum := by
    unfold rowTotal
    have e : (List.range K).map (fun j => (c.data.get i j : Rat) + p j)
        = (List.range K).map (fun j => ((colCount seqs i j : Nat) : Rat) + p j) := by
      apply List.map_congr_left
      intro j hj
      rw [hget i j hi (List.mem_range.mp hj)]
    rw [e, List.sum_map_add]
    have := colCount_row_sum (K := K) seqs i (fun s hs => by
      have hl : i < s.length := by rw [hlen s hs]; exact hi
      exact ⟨s[i], List.getElem?_eq_getElem hl, hsym s hs _ (List.getElem_mem _)⟩)
    rw [← this, sum_map_cast]
  rw [freq_eq c.data p i a (by rw [hrows]; exact hi) ha (by rw [htot]; exact hden), htot,
    hget i a hi ha]

end chain

end C09
end LMV
