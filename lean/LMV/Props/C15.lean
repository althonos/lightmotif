/-
  C15 — Motif file readers never panic or hang on malformed input: for every byte string and chunk
  schedule (and buffer-capacity policy, for the two JASPAR readers), on the code with the library's
  fixes.  "Never hangs" is two things.  The models are total functions without fuel: they recurse on
  the remaining stream / input, and the two guarded parser loops never take their guard.  A successful
  `next` lowers a measure of the reader state that starts at no more than `|input|`, so a consumer
  that stops at the first error or end of input receives at most `|input|` records.
-/
import LMV.Lemmas.Jaspar
import LMV.Lemmas.Uniprobe
import LMV.Lemmas.Transfac

namespace LMV
namespace C15

open Io Nom

/-! ### a consumer of a reader, abstractly -/

variable {σ ρ : Type}

def afterCalls (step : σ → Outcome ρ × σ) : Nat → σ → σ
  | 0, s => s
  | n + 1, s => afterCalls step n (step s).2

def allRecords (step : σ → Outcome ρ × σ) : Nat → σ → Bool
  | 0, _ => true
  | n + 1, s => (step s).1.isRecord && allRecords step n (step s).2

theorem consumer_ok (step : σ → Outcome ρ × σ) (Inv : σ → Prop) (μ : σ → Nat)
    (h : ∀ s, Inv s → CallOK Inv μ s (step s)) :
    ∀ (n : Nat) (s : σ), Inv s →
      (∀ site, (step (afterCalls step n s)).1 ≠ .panic site) ∧ (allRecords step n s = true → n ≤ μ s)
  | 0, s, hs => ⟨(h s hs).noPanic, fun _ => Nat.zero_le _⟩
  | n + 1, s, hs => by
    obtain ⟨g1, g2⟩ := consumer_ok step Inv μ h n _ (h s hs).inv
    refine ⟨g1, fun ha => ?_⟩
    simp only [allRecords, Bool.and_eq_true] at ha
    cases hr : (step s).1 with
    | record r => exact Nat.lt_of_le_of_lt (g2 ha.2) ((h s hs).lower r hr)
    | _ => simp [Outcome.isRecord, hr] at ha

/-- end of file is sticky in the stream model: once the data is exhausted every read returns 0 -/
theorem eof_sticky (d : UInt8) (sched : List Nat) :
    (readUntil d sched []).1 = [] ∧ (readUntil d sched []).2.1 = [] := by
  simpa [through, after] using readUntil_eq d sched []

/-- both JASPAR readers: the same `Reader` around a record parser that eats and has no index panic -/
theorem jaspar_reader_ok {ρ : Type} (parse : Parser (Except String ρ)) (hp : Eats 1 parse)
    (hnp : NoIndexPanic parse) (grow : Nat → Nat → Nat → Nat)
    (sched : List Nat) (bytes : Bytes) (n : Nat) :
    (∀ site, (Jaspar.next parse grow
      (afterCalls (Jaspar.next parse grow) n (Jaspar.new grow sched bytes))).1 ≠ .panic site) ∧
    (allRecords (Jaspar.next parse grow) n (Jaspar.new grow sched bytes) = true → n ≤ bytes.length) := by
  obtain ⟨h1, h2⟩ := consumer_ok _ Jaspar.Inv Jaspar.measure (Jaspar.next_ok parse hp hnp grow) n _
    (Jaspar.new_inv grow sched bytes)
  exact ⟨h1, fun h => Nat.le_trans (h2 h) (Jaspar.new_measure grow sched bytes)⟩

/-! ### JASPAR (raw) -/

/-- **JASPAR (raw): no call ever panics.**  `Reader::new` is total; the call number `n + 1` of
    `next` does not panic, whatever the bytes, the chunk schedule and the capacity policy. -/
theorem jaspar_never_panics (grow : Nat → Nat → Nat → Nat) (sched : List Nat) (bytes : Bytes)
    (n : Nat) (site : String) :
    (Jaspar.next Jaspar.record grow
      (afterCalls (Jaspar.next Jaspar.record grow) n (Jaspar.new grow sched bytes))).1 ≠ .panic site :=
  (jaspar_reader_ok _ Jaspar.eats_record Jaspar.record_noPanic grow sched bytes n).1 site

/-- **JASPAR (raw): a consumer that stops at the first error or end of input terminates**: it
    receives at most `|input|` records. -/
theorem jaspar_consumer_terminates (grow : Nat → Nat → Nat → Nat) (sched : List Nat) (bytes : Bytes)
    (n : Nat) (h : allRecords (Jaspar.next Jaspar.record grow) n (Jaspar.new grow sched bytes) = true) :
    n ≤ bytes.length :=
  (jaspar_reader_ok _ Jaspar.eats_record Jaspar.record_noPanic grow sched bytes n).2 h

/-! ### JASPAR 2016 -/

theorem jaspar16_never_panics (A : Alphabet) (hA : A.IndexOK) (grow : Nat → Nat → Nat → Nat)
    (sched : List Nat) (bytes : Bytes) (n : Nat) (site : String) :
    (Jaspar.next (Jaspar16.record A) grow
      (afterCalls (Jaspar.next (Jaspar16.record A) grow) n (Jaspar.new grow sched bytes))).1 ≠ .panic site :=
  (jaspar_reader_ok _ (Jaspar16.eats_record A) (Jaspar16.record_noPanic hA)
    grow sched bytes n).1 site

theorem jaspar16_consumer_terminates (A : Alphabet) (hA : A.IndexOK) (grow : Nat → Nat → Nat → Nat)
    (sched : List Nat) (bytes : Bytes) (n : Nat)
    (h : allRecords (Jaspar.next (Jaspar16.record A) grow) n (Jaspar.new grow sched bytes) = true) :
    n ≤ bytes.length :=
  (jaspar_reader_ok _ (Jaspar16.eats_record A) (Jaspar16.record_noPanic hA)
    grow sched bytes n).2 h

/-! ### UniPROBE -/

/-- the reader needs no invariant; its measure starts at `|input|` -/
theorem uniprobe_reader_ok {α : Type} (A : Alphabet) (hA : A.IndexOK) (conv : Bytes → Option α)
    (zero : α) (freqOk : Mat α A.K → Bool) (sched : List Nat) (bytes : Bytes) (n : Nat) :
    (∀ site, (Uniprobe.next A conv zero freqOk
      (afterCalls (Uniprobe.next A conv zero freqOk) n (Uniprobe.new sched bytes))).1 ≠ .panic site) ∧
    (allRecords (Uniprobe.next A conv zero freqOk) n (Uniprobe.new sched bytes) = true →
      n ≤ bytes.length) := by
  obtain ⟨h1, h2⟩ := consumer_ok _ (fun _ => True) Uniprobe.measure
    (fun s _ => Uniprobe.next_ok hA conv zero freqOk s) n (Uniprobe.new sched bytes) trivial
  exact ⟨h1, fun h => by simpa [Uniprobe.measure, Uniprobe.new] using h2 h⟩

theorem uniprobe_never_panics {α : Type} (A : Alphabet) (hA : A.IndexOK) (conv : Bytes → Option α)
    (zero : α) (freqOk : Mat α A.K → Bool) (sched : List Nat) (bytes : Bytes) (n : Nat) (site : String) :
    (Uniprobe.next A conv zero freqOk
      (afterCalls (Uniprobe.next A conv zero freqOk) n (Uniprobe.new sched bytes))).1 ≠ .panic site :=
  (uniprobe_reader_ok A hA conv zero freqOk sched bytes n).1 site

theorem uniprobe_consumer_terminates {α : Type} (A : Alphabet) (hA : A.IndexOK)
    (conv : Bytes → Option α) (zero : α) (freqOk : Mat α A.K → Bool) (sched : List Nat)
    (bytes : Bytes) (n : Nat)
    (h : allRecords (Uniprobe.next A conv zero freqOk) n (Uniprobe.new sched bytes) = true) :
    n ≤ bytes.length :=
  (uniprobe_reader_ok A hA conv zero freqOk sched bytes n).2 h

/-! ### TRANSFAC -/

/-- `Transfac.new` is `.error site` at a panic site only (an I/O or parse error is stored in the
    state), so `.ok` is: no panic -/
theorem transfac_new_never_panics (sched : List Nat) (bytes : Bytes) :
    ∃ s, Transfac.new sched bytes = .ok s := by
  obtain ⟨s, h, _⟩ := Transfac.new_ok sched bytes
  exact ⟨s, h⟩

theorem transfac_reader_ok {α : Type} (A : Alphabet) (hA : A.IndexOK) (conv : Bytes → Option α)
    (zero : α) (sched : List Nat) (bytes : Bytes) (s0 : Transfac.State)
    (h0 : Transfac.new sched bytes = .ok s0) (n : Nat) :
    (∀ site, (Transfac.next A conv zero (afterCalls (Transfac.next A conv zero) n s0)).1 ≠ .panic site) ∧
    (allRecords (Transfac.next A conv zero) n s0 = true → n ≤ bytes.length) := by
  obtain ⟨s, h, hinv, hm⟩ := Transfac.new_ok sched bytes
  rw [h0] at h
  cases h
  obtain ⟨h1, h2⟩ := consumer_ok _ Transfac.Inv Transfac.measure (Transfac.next_ok hA conv zero) n _ hinv
  exact ⟨h1, fun h => Nat.le_trans (h2 h) hm⟩

theorem transfac_never_panics {α : Type} (A : Alphabet) (hA : A.IndexOK) (conv : Bytes → Option α)
    (zero : α) (sched : List Nat) (bytes : Bytes) (s0 : Transfac.State)
    (h0 : Transfac.new sched bytes = .ok s0) (n : Nat) (site : String) :
    (Transfac.next A conv zero (afterCalls (Transfac.next A conv zero) n s0)).1 ≠ .panic site :=
  (transfac_reader_ok A hA conv zero sched bytes s0 h0 n).1 site

theorem transfac_consumer_terminates {α : Type} (A : Alphabet) (hA : A.IndexOK)
    (conv : Bytes → Option α) (zero : α) (sched : List Nat) (bytes : Bytes) (s0 : Transfac.State)
    (h0 : Transfac.new sched bytes = .ok s0) (n : Nat)
    (h : allRecords (Transfac.next A conv zero) n s0 = true) : n ≤ bytes.length :=
  (transfac_reader_ok A hA conv zero sched bytes s0 h0 n).2 h

/-- the guard in the model of `parse_reference`'s loop is dead code -/
theorem transfac_reference_line_consumes (i r : Bytes)
    (h : Transfac.referenceLine i = .ok r (some ())) : r.length < i.length :=
  Transfac.referenceLine_lt i r h

/-- the guard in the model of `parse_record`'s loop is dead code (for any alphabet tables: `hA` is not used) -/
theorem transfac_record_step_consumes {α : Type} (A : Alphabet) (hA : A.IndexOK)
    (conv : Bytes → Option α) (zero : α) (r r' : Transfac.TRecord α A.K) (i rest : Bytes)
    (h : Transfac.recordStep A conv zero space1 r i = .continue rest r') : rest.length < i.length :=
  Transfac.recordStep_lt A conv zero r r' i rest h

/-- the defect that was repaired, on the model: with the *streaming* `space1` the alphabet line
    `P0` at the end of the input makes `parse_record` return `Incomplete`, which the conversion to
    `lightmotif_io::Error` treats as `unreachable!()` -/
theorem transfac_streaming_space1_counterexample :
    Transfac.parseRecordWith dna (fun _ => some (0 : Nat)) 0 space1S [0x50, 0x30] = .error .incomplete := by
  have hstep : Transfac.recordStep dna (fun _ => some (0 : Nat)) 0 space1S {} [0x50, 0x30]
      = .error .incomplete := by rfl
  unfold Transfac.parseRecordWith
  rw [Transfac.recordLoop, hstep]

theorem alphabets_indexOK : dna.IndexOK ∧ protein.IndexOK := ⟨dna_indexOK, protein_indexOK⟩

-- the input `>a`: a header cut short
example : (Jaspar.next Jaspar.record Jaspar.growAmortized
    (Jaspar.new Jaspar.growAmortized [1, 2] [0x3E, 0x61])).1.isPanic = false := by
  have := jaspar_never_panics Jaspar.growAmortized [1, 2] [0x3E, 0x61] 0
  cases h : (Jaspar.next Jaspar.record Jaspar.growAmortized
    (Jaspar.new Jaspar.growAmortized [1, 2] [0x3E, 0x61])).1 with
  | panic site => exact absurd h (this site)
  | _ => rfl

example : allRecords (Uniprobe.next dna (fun _ => some (0 : Nat)) 0 (fun _ => true)) 0
    (Uniprobe.new [] [0x41]) = true := rfl

example : ∃ s, Transfac.new [3] [0x56, 0x56, 0x0A, 0x2F, 0x2F, 0x0A] = .ok s :=
  transfac_new_never_panics _ _

end C15
end LMV
