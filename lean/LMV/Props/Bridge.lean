/-
  Bridge — connections between properties whose files state their facts about their own local
  definitions of the same thing.
  §B1 (for C07): C07's padding clause about the scoring model of C01 — the two window scores are the
    same function, and `max` / `argmax` of the matrix a full scan returns is the best valid position.
  §B2 (for C02 / C03): the scanner's exact score is C01's window score, its block scoring is C01's
    lane-level `u8` pipeline, its block maximum and candidate list are C07's table-driven functions;
    C02 and C03 restated on kernel records built from those.
  §B3 (for C04): `count_symbols` = the occurrence counts of the linear sequence.
-/
import LMV.Props.Bridge.B1
import LMV.Props.Bridge.B2
import LMV.Props.Bridge.B3
