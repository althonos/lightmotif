/-
  C17 — Python results equal the results of the core library on the same data.

  The model (LMV.Model.PyApi) gives every entry point of the Python module as the composition of
  core-library operations it runs (`Term` over `Op`) or the Python exception it raises.  The theorems
  below state, for every argument, WHICH composition that is — so that, under any interpretation of
  the operations (`Term.eval`: the core models of C01–C14, or the core library itself, which is what
  the correspondence run uses), the Python result is the core result on the same data — and which
  exception invalid arguments and alphabet mismatches raise: `normalize`, `log_odds` and `create` only
  `TypeError` / `ValueError` (the `_errors` theorems); the other entry points as their `_spec` says
  (`RuntimeError`, `OSError`, the file object's own exception).  The model has more outcomes than the
  theorems name: `OverflowError` (a count outside `u32`) and `AttributeError` (no `read` method) are
  stated by no theorem.  `scoringMatrixInit` (`ScoringMatrix(dict)`, the loop of `CountMatrix(dict)`
  again) and `loaderInit (.path true)` (a readable path) have no theorem either.  Floating-point facts
  the branches depend on (`F32Ops`) are arbitrary.
-/
import LMV.Model.PyApi

namespace LMV
namespace C17
open PyApi

/-- an instance of the floating-point facts for the examples: frequencies are numerators over 64 -/
def toy : F32Ops :=
  { bgValid := fun p => p.sum == 64, freqsNe := fun a b => a != b, uniform := fun _ => [16, 16, 16, 16, 0] }

/-! ### dictionary -> array by symbol -/

/-- an entry the glue accepts: a one-character key naming a symbol, a numeric value -/
def EntryOk (A : Alphabet) (e : DictEntry) (sym v : Nat) : Prop :=
  ∃ b, e.key = some [b] ∧ A.fromAscii b = some sym ∧ e.val = some v

/-- entries `es` are acceptable and denote the (symbol, value) pairs `svs`, in order -/
inductive AllOk (A : Alphabet) : List DictEntry → List (Nat × Nat) → Prop
  | nil : AllOk A [] []
  | cons {e sv es svs} : EntryOk A e sv.1 sv.2 → AllOk A es svs → AllOk A (e :: es) (sv :: svs)

/-- the pure fold the glue performs when every entry is acceptable -/
def assign (p : List Nat) : List (Nat × Nat) → List Nat
  | [] => p
  | (sym, v) :: rest => assign (p.set sym v) rest

/-- `dict_to_alphabet_array` on acceptable entries: the array of `K` zeros with the values assigned by
    symbol, in iteration order -/
theorem dictToAlphabetArray_ok (A : Alphabet) (es : List DictEntry) (svs : List (Nat × Nat))
    (h : AllOk A es svs) :
    dictToAlphabetArray A es = .ok (assign (List.replicate A.K 0) svs) := by
  unfold dictToAlphabetArray
  generalize List.replicate A.K 0 = p
  induction h generalizing p with
  | nil => rfl
  | cons hd _ ih =>
    obtain ⟨b, hk, hs, hv⟩ := hd
    simp only [List.foldlM_cons, hk, hs, hv]
    exact ih _

theorem assign_length (p : List Nat) (svs : List (Nat × Nat)) : (assign p svs).length = p.length := by
  induction svs generalizing p with
  | nil => rfl
  | cons sv rest ih => exact (ih _).trans List.length_set

theorem assign_get_other (p : List Nat) (svs : List (Nat × Nat)) (s : Nat) (h : ∀ sv ∈ svs, sv.1 ≠ s) :
    (assign p svs)[s]? = p[s]? := by
  induction svs generalizing p with
  | nil => rfl
  | cons sv rest ih =>
    exact (ih _ fun x hx => h x (List.mem_cons_of_mem _ hx)).trans (List.getElem?_set_ne (h sv List.mem_cons_self))

/-- a Python dict has distinct keys: with pairwise distinct symbols, the array holds exactly the value
    given for each symbol …  For the symbols of `EntryOk` entries the bound `hb` (`sym < K`) is
    `C05.fromAscii_lt`, under the table facts of C05, which this file does not import. -/
theorem assign_get (p : List Nat) (svs : List (Nat × Nat)) (hd : (svs.map (·.1)).Nodup)
    (sv : Nat × Nat) (hm : sv ∈ svs) (hb : sv.1 < p.length) : (assign p svs)[sv.1]? = some sv.2 := by
  induction svs generalizing p with
  | nil => cases hm
  | cons x rest ih =>
    rw [List.map_cons, List.nodup_cons] at hd
    cases List.mem_cons.mp hm with
    | inl heq =>
      subst heq
      exact (assign_get_other _ rest _ fun y hy hxy => hd.1 (List.mem_map.mpr ⟨y, hy, hxy⟩)).trans
        (List.getElem?_set_self hb)
    | inr hin => exact ih (p.set x.1 x.2) hd.2 hin (Nat.lt_of_lt_of_eq hb List.length_set.symm)

/-- … and zero for every symbol the dictionary does not mention -/
theorem dictToAlphabetArray_unmentioned (A : Alphabet) (svs : List (Nat × Nat)) (s : Nat)
    (hs : s < A.K) (h : ∀ sv ∈ svs, sv.1 ≠ s) : (assign (List.replicate A.K 0) svs)[s]? = some 0 := by
  rw [assign_get_other _ _ _ h]
  simp [hs]

theorem foldlM_error {σ α ε : Type} {f : σ → α → Except ε σ} {P : ε → Prop}
    (hf : ∀ s a e, f s a = .error e → P e) :
    ∀ (l : List α) (s : σ) (e : ε), l.foldlM f s = .error e → P e := by
  intro l
  induction l with
  | nil => intro s e h; cases h
  | cons a l ih =>
    intro s e h
    rw [List.foldlM_cons] at h
    cases hs : f s a with
    | error e' => rw [hs] at h; cases h; exact hf s a e hs
    | ok s' => rw [hs] at h; exact ih s' e h

theorem dictToAlphabetArray_errors (A : Alphabet) (es : List DictEntry) (e : Exc)
    (h : dictToAlphabetArray A es = .error e) : e = .typeError ∨ e = .valueError := by
  refine foldlM_error (P := fun e => e = .typeError ∨ e = .valueError) (fun p x e h => ?_) es _ e h
  -- every branch of the step that fails returns one of the two literally
  repeat' split at h
  all_goals cases h
  all_goals simp

example : dictToAlphabetArray dna [⟨some [65], some 7⟩, ⟨some [71], some 9⟩] = .ok [7, 0, 0, 9, 0] ∧
    dictToAlphabetArray dna [⟨some [65, 66], some 7⟩] = .error .valueError ∧
    dictToAlphabetArray dna [⟨some [90], some 7⟩] = .error .valueError ∧
    dictToAlphabetArray dna [⟨none, some 7⟩] = .error .typeError ∧
    dictToAlphabetArray dna [⟨some [65], none⟩] = .error .typeError := by decide +kernel

/-! ### `CountMatrix.normalize` -/

theorem normalize_dict {A : Alphabet} {self : Term} {es : List DictEntry} {p : List Nat}
    (hd : dictToAlphabetArray A es = .ok p) :
    normalize A self (.dict es) = .ok (.app1 .toWeight (.app2 .toFreq self (.app1 .pseudoArray (.arr p)))) := by
  simp [normalize, pseudoOf, hd]

/-- C17, `normalize`: the result is `self.to_freq(pseudo).to_weight(None)` with the pseudocounts the
    argument denotes — none, the same count for every symbol, or the dictionary's value by symbol -/
theorem normalize_spec (A : Alphabet) (self : Term) :
    normalize A self .none = .ok (.app1 .toWeight (.app2 .toFreq self (.app0 .pseudoDefault))) ∧
    (∀ b, normalize A self (.float b) = .ok (.app1 .toWeight (.app2 .toFreq self (.app1 .pseudoUniform (.f32 b))))) ∧
    (∀ es p, dictToAlphabetArray A es = .ok p →
      normalize A self (.dict es) = .ok (.app1 .toWeight (.app2 .toFreq self (.app1 .pseudoArray (.arr p))))) ∧
    (∀ es e, dictToAlphabetArray A es = .error e → normalize A self (.dict es) = .error e) ∧
    normalize A self .other = .error .typeError := by
  refine ⟨rfl, fun _ => rfl, fun _ _ h => normalize_dict h, ?_, rfl⟩
  intro es e h; simp [normalize, pseudoOf, h]

theorem pseudoOf_errors {A : Alphabet} {arg : PyArg} {e : Exc} (h : pseudoOf A arg = .error e) :
    e = .typeError ∨ e = .valueError := by
  revert h
  fun_cases pseudoOf A arg
  all_goals intro h; cases h
  · exact dictToAlphabetArray_errors A _ _ ‹_›
  · exact .inl rfl

theorem normalize_errors (A : Alphabet) (self : Term) (arg : PyArg) (e : Exc)
    (h : normalize A self arg = .error e) : e = .typeError ∨ e = .valueError := by
  revert h
  fun_cases normalize A self arg
  all_goals intro h; cases h
  exact pseudoOf_errors ‹_›

example : normalize dna (.arg "self") (.dict [⟨some [84], some 3⟩]) =
    .ok (.app1 .toWeight (.app2 .toFreq (.arg "self") (.app1 .pseudoArray (.arr [0, 0, 3, 0, 0])))) := by decide +kernel

/-! ### `WeightMatrix.log_odds` -/

theorem backgroundOf_dict {F : F32Ops} {A : Alphabet} {es : List DictEntry} {p : List Nat}
    (hd : dictToAlphabetArray A es = .ok p) (hv : F.bgValid p = true) :
    backgroundOf F A (.dict es) = .ok (.app1 .bgNew (.arr p), p) := by
  simp [backgroundOf, hd, hv]

theorem backgroundOf_errors {F : F32Ops} {A : Alphabet} {arg : PyArg} {e : Exc}
    (h : backgroundOf F A arg = .error e) : e = .typeError ∨ e = .valueError := by
  revert h
  fun_cases backgroundOf F A arg
  all_goals intro h; cases h
  · exact dictToAlphabetArray_errors A _ _ ‹_›
  · exact .inr rfl
  · exact .inl rfl
  · exact .inl rfl

/-- C17, `log_odds`: with a valid background the result is
    `(if background ≠ self.background then self.rescale(background) else self.clone()).to_scoring_with_base(base)` -/
theorem logOdds_spec (F : F32Ops) (A : Alphabet) (self : Term) (selfBg : List Nat) (arg : PyArg) (base : Nat)
    (bg : Term) (freqs : List Nat) (h : backgroundOf F A arg = .ok (bg, freqs)) :
    logOdds F A self selfBg arg base =
      .ok (.app2 .toScoringWithBase
            (if F.freqsNe freqs selfBg then Term.app2 .rescale self bg else Term.app1 .clone self) (.f32 base)) := by
  simp [logOdds, h]

/-- a GIVEN background that differs from the matrix's own is applied: the composition contains
    `rescale(self, Background::new(array of the dictionary))` -/
theorem logOdds_applies_background (F : F32Ops) (A : Alphabet) (self : Term) (selfBg : List Nat)
    (es : List DictEntry) (p : List Nat) (base : Nat)
    (hd : dictToAlphabetArray A es = .ok p) (hv : F.bgValid p = true) (hne : F.freqsNe p selfBg = true) :
    logOdds F A self selfBg (.dict es) base =
      .ok (.app2 .toScoringWithBase (.app2 .rescale self (.app1 .bgNew (.arr p))) (.f32 base)) := by
  rw [logOdds_spec F A self selfBg _ base _ _ (backgroundOf_dict hd hv)]
  simp [hne]

/-- no background given: nothing to rescale when the matrix was computed under the uniform background -/
theorem logOdds_default (F : F32Ops) (A : Alphabet) (self : Term) (base : Nat)
    (heq : F.freqsNe (F.uniform A) (F.uniform A) = false) :
    logOdds F A self (F.uniform A) .none base =
      .ok (.app2 .toScoringWithBase (.app1 .clone self) (.f32 base)) := by
  simp [logOdds, backgroundOf, heq]

theorem logOdds_errors (F : F32Ops) (A : Alphabet) (self : Term) (selfBg : List Nat) (arg : PyArg)
    (base : Nat) (e : Exc) (h : logOdds F A self selfBg arg base = .error e) :
    e = .typeError ∨ e = .valueError := by
  revert h
  fun_cases logOdds F A self selfBg arg base
  all_goals intro h; cases h
  exact backgroundOf_errors ‹_›

/-- the pinned commit (arms swapped): EVERY valid background that differs from the matrix's own is
    ignored — the composition is `self.clone().to_scoring_with_base(base)`, in which the background
    does not occur -/
theorem logOddsAsIs_ignores_background (F : F32Ops) (A : Alphabet) (self : Term) (selfBg : List Nat)
    (es : List DictEntry) (p : List Nat) (base : Nat)
    (hd : dictToAlphabetArray A es = .ok p) (hv : F.bgValid p = true) (hne : F.freqsNe p selfBg = true) :
    logOddsAsIs F A self selfBg (.dict es) base =
      .ok (.app2 .toScoringWithBase (.app1 .clone self) (.f32 base)) := by
  simp [logOddsAsIs, backgroundOf_dict hd hv, hne]

example : logOdds toy dna (.arg "w") [16, 16, 16, 16, 0]
      (.dict [⟨some [65], some 8⟩, ⟨some [67], some 8⟩, ⟨some [84], some 24⟩, ⟨some [71], some 24⟩]) 7 =
    .ok (.app2 .toScoringWithBase (.app2 .rescale (.arg "w") (.app1 .bgNew (.arr [8, 8, 24, 24, 0]))) (.f32 7)) ∧
    logOddsAsIs toy dna (.arg "w") [16, 16, 16, 16, 0]
      (.dict [⟨some [65], some 8⟩, ⟨some [67], some 8⟩, ⟨some [84], some 24⟩, ⟨some [71], some 24⟩]) 7 =
    .ok (.app2 .toScoringWithBase (.app1 .clone (.arg "w")) (.f32 7)) ∧
    logOdds toy dna (.arg "w") [16, 16, 16, 16, 0] (.dict [⟨some [65], some 8⟩]) 7 = .error .valueError := by
  decide +kernel

/-! ### `CountMatrix(values)`: dictionary of columns -> matrix, by symbol -/

/-- a well-formed column as Python passes it -/
def encCol (c : List Nat) : CountColumn := some (c.map fun v => some (Int.ofNat v))

theorem countEntries_ok (c : List Nat) (h : ∀ v ∈ c, v < 4294967296) :
    countEntries (c.map fun v => some (Int.ofNat v)) = .ok c := by
  induction c with
  | nil => rfl
  | cons x rest ih =>
    have hx : ¬ (Int.ofNat x < 0 ∨ Int.ofNat x ≥ 4294967296) :=
      not_or.mpr ⟨Int.not_lt.mpr (Int.natCast_nonneg x), Int.not_le.mpr (Int.ofNat_lt.mpr (h x List.mem_cons_self))⟩
    -- `countEntries (some i :: _)` is its `if` by unfolding
    refine (if_neg hx).trans ?_
    rw [ih (fun v hv => h v (List.mem_cons_of_mem _ hv))]
    rfl

theorem setColumn_length (m : Rows) (j : Nat) (vals : List Nat) : (setColumn m j vals).length = m.length := by
  simp [setColumn]

/-- entry `(i, j)` of a matrix given as rows (0 outside) -/
def cell (m : Rows) (i j : Nat) : Nat := (m.getD i []).getD j 0

def Rect (m : Rows) (n K : Nat) : Prop := m.length = n ∧ ∀ row ∈ m, row.length = K

theorem setColumn_getD (m : Rows) (j : Nat) (vals : List Nat) (i v : Nat) (hi : i < m.length)
    (hv : vals[i]? = some v) : (setColumn m j vals).getD i [] = (m.getD i []).set j v := by
  have h1 : (m.zip (List.range m.length))[i]? = some (m[i], i) :=
    List.getElem?_zip_eq_some.mpr ⟨List.getElem?_eq_getElem hi, List.getElem?_range hi⟩
  simp only [setColumn, List.getD_eq_getElem?_getD, List.getElem?_map, h1, Option.map_some, hv, Option.getD_some,
    List.getElem?_eq_getElem hi]

theorem setColumn_rect (m : Rows) (n K j : Nat) (vals : List Nat) (h : Rect m n K) :
    Rect (setColumn m j vals) n K := by
  refine ⟨by rw [setColumn_length]; exact h.1, ?_⟩
  intro row hrow
  simp only [setColumn, List.mem_map] at hrow
  obtain ⟨⟨r, i⟩, hmem, rfl⟩ := hrow
  have hr : r ∈ m := (List.of_mem_zip hmem).1
  have := h.2 r hr
  split <;> simp [this]

theorem setColumn_cell (m : Rows) (n K j : Nat) (vals : List Nat) (h : Rect m n K) (hv : vals.length = n)
    (hj : j < K) (i j' : Nat) (hi : i < n) :
    cell (setColumn m j vals) i j' = if j' = j then vals.getD i 0 else cell m i j' := by
  have hi' : i < m.length := Nat.lt_of_lt_of_eq hi h.1.symm
  have hvi : i < vals.length := Nat.lt_of_lt_of_eq hi hv.symm
  have hrow : j < (m.getD i []).length := by
    rw [List.getD_eq_getElem?_getD, List.getElem?_eq_getElem hi', Option.getD_some, h.2 _ (List.getElem_mem hi')]
    exact hj
  unfold cell
  rw [setColumn_getD m j vals i vals[i] hi' (List.getElem?_eq_getElem hvi), List.getD_eq_getElem?_getD]
  by_cases hjj : j' = j
  · rw [if_pos hjj, hjj, List.getElem?_set_self hrow, List.getD_eq_getElem?_getD, List.getElem?_eq_getElem hvi]
  · rw [if_neg hjj, List.getElem?_set_ne (Ne.symm hjj), ← List.getD_eq_getElem?_getD]

theorem zeros_rect (n K : Nat) : Rect (List.replicate n (List.replicate K 0)) n K :=
  ⟨by simp, fun row h => by rw [(List.mem_replicate.mp h).2]; simp⟩

theorem zeros_cell (n K i j : Nat) : cell (List.replicate n (List.replicate K 0)) i j = 0 := by
  unfold cell
  simp only [List.getD_eq_getElem?_getD, List.getElem?_replicate]
  split <;> simp [List.getElem?_replicate] <;> split <;> rfl

/-- the value the dictionary gives for entry `(i, j)`: `values[letter j][i]`, `0` if the letter is absent -/
def wanted (cols : List (Option (List Nat))) (i j : Nat) : Nat :=
  match cols[j]? with
  | some (some c) => c.getD i 0
  | _ => 0

/-- the matrix the loop of `CountMatrix.__init__` holds so far (zeros before the first column) -/
def soFar (K n : Nat) (d : Option Rows) : Rows := d.getD (List.replicate n (List.replicate K 0))

/-- state of the loop after the columns `pre`: the next symbol is `pre.length`, the matrix holds the
    columns of `pre` and zeros elsewhere, and it exists as soon as a column was present -/
structure AfterCols (K n : Nat) (pre : List (Option (List Nat))) (st : Option Rows × Nat) : Prop where
  next : st.2 = pre.length
  rect : Rect (soFar K n st.1) n K
  isSome : (∃ c, some c ∈ pre) → st.1.isSome
  cells : ∀ i j, i < n → cell (soFar K n st.1) i j = wanted pre i j

theorem wanted_snoc (pre : List (Option (List Nat))) (c : Option (List Nat)) (i j : Nat) :
    wanted (pre ++ [c]) i j =
      if j = pre.length then (match c with | some c => c.getD i 0 | none => 0) else wanted pre i j := by
  unfold wanted
  rcases Nat.lt_trichotomy j pre.length with h | h | h
  · rw [if_neg (Nat.ne_of_lt h), List.getElem?_append_left h]
  · subst h; rw [if_pos rfl, List.getElem?_concat_length]; cases c <;> rfl
  · rw [if_neg (Nat.ne_of_gt h), List.getElem?_eq_none (Nat.le_of_lt h),
      List.getElem?_eq_none (by rw [List.length_append]; exact h)]

theorem after_step (A : Alphabet) (n : Nat) (pre : List (Option (List Nat))) (c : Option (List Nat))
    (hc : ∀ c', c = some c' → c'.length = n ∧ ∀ v ∈ c', v < 4294967296) (hk : pre.length < A.K)
    (st : Option Rows × Nat) (h : AfterCols A.K n pre st) :
    ∃ st', countStep A st (c.map encCol) = .ok st' ∧ AfterCols A.K n (pre ++ [c]) st' := by
  cases c with
  | none =>
    refine ⟨(st.1, st.2 + 1), rfl,
      { next := by simp [h.next], rect := h.rect, isSome := fun ⟨c, hc⟩ => h.isSome ⟨c, by simpa using hc⟩,
        cells := fun i j hi => ?_ }⟩
    rw [wanted_snoc]
    split
    · rename_i hj; subst hj
      rw [h.cells i _ hi]
      simp [wanted]
    · exact h.cells i j hi
  | some c =>
    obtain ⟨hlen, hvals⟩ := hc c rfl
    have hl : (soFar A.K n st.1).length = n := h.rect.1
    refine ⟨(some (setColumn (soFar A.K n st.1) st.2 c), st.2 + 1), ?_,
      { next := by simp [h.next], rect := setColumn_rect _ n A.K st.2 c h.rect, isSome := fun _ => rfl,
        cells := fun i j hi => ?_ }⟩
    · simp only [Option.map_some, countStep, encCol, countEntries_ok c hvals, List.length_map, hlen]
      obtain ⟨d, j⟩ := st
      cases d with
      | none => simp [soFar]
      | some m => simp [soFar, show m.length = n from hl]
    · rw [wanted_snoc, ← h.next]
      show cell (setColumn (soFar A.K n st.1) st.2 c) i j = _
      rw [setColumn_cell _ n A.K st.2 c h.rect hlen (h.next ▸ hk) i j hi]
      split
      · rfl
      · exact h.cells i j hi

theorem after_fold (A : Alphabet) (n : Nat) (rest : List (Option (List Nat)))
    (hc : ∀ c, some c ∈ rest → c.length = n ∧ ∀ v ∈ c, v < 4294967296) :
    ∀ (pre : List (Option (List Nat))) (st : Option Rows × Nat), pre.length + rest.length ≤ A.K →
      AfterCols A.K n pre st →
      ∃ st', (rest.map (Option.map encCol)).foldlM (countStep A) st = .ok st' ∧ AfterCols A.K n (pre ++ rest) st' := by
  induction rest with
  | nil => intro pre st _ h; exact ⟨st, rfl, by simpa using h⟩
  | cons c rest ih =>
    intro pre st hk h
    have hpre : pre.length < A.K := Nat.lt_of_lt_of_le (Nat.lt_add_of_pos_right (Nat.succ_pos _)) hk
    have hk' : (pre ++ [c]).length + rest.length ≤ A.K := by
      rw [List.length_append, Nat.add_assoc, Nat.add_comm _ rest.length]; exact hk
    obtain ⟨st₁, e₁, h₁⟩ := after_step A n pre c (fun c' e => hc c' (by simp [e])) hpre st h
    obtain ⟨st', e', h'⟩ := ih (fun c' hc' => hc c' (List.mem_cons_of_mem _ hc')) (pre ++ [c]) st₁ hk' h₁
    exact ⟨st', by simp only [List.map_cons, List.foldlM_cons, e₁, bind, Except.bind]; exact e', by simpa using h'⟩

/-- C17, `CountMatrix(values)`: for a dictionary whose columns (for the letters it mentions) are
    sequences of one length `n` of integers in `0 .. 2^32 - 1`, with at least one letter of the alphabet
    mentioned, the constructor succeeds with an `n × K` matrix whose entry `(i, j)` is
    `values[letter j][i]`, and `0` for the letters not mentioned -/
theorem countMatrixInit_spec (A : Alphabet) (n : Nat) (cols : List (Option (List Nat)))
    (hK : cols.length = A.K)
    (hc : ∀ c, some c ∈ cols → c.length = n ∧ ∀ v ∈ c, v < 4294967296)
    (hex : ∃ c, some c ∈ cols) :
    ∃ m, countMatrixInit A (cols.map (Option.map encCol)) = .ok m ∧ Rect m n A.K ∧
      ∀ i j, i < n → cell m i j = wanted cols i j := by
  obtain ⟨st', e, h⟩ := after_fold A n cols hc [] (none, 0) (by simp [hK])
    { next := rfl, rect := zeros_rect n A.K, isSome := fun h => by simp at h,
      cells := fun i j _ => by simp [soFar, zeros_cell, wanted] }
  obtain ⟨m, hm⟩ := Option.isSome_iff_exists.mp (h.isSome hex)
  have hv : soFar A.K n st'.1 = m := by simp [soFar, hm]
  have h2 := h.rect
  have h4 := h.cells
  rw [hv] at h2 h4
  refine ⟨m, ?_, h2, h4⟩
  unfold countMatrixInit
  rw [e]
  obtain ⟨d, j⟩ := st'
  cases hm
  rfl

example : countMatrixInit dna [some (encCol [1, 2]), none, some (encCol [3, 4]), none, none] =
    .ok [[1, 0, 3, 0, 0], [2, 0, 4, 0, 0]] := by decide +kernel

/-! ### scoring: `calculate`, one sequence reused -/

/-- C17, `calculate`: same alphabet — `score(pssm, configure(sequence, pssm))`, and the Python sequence
    object is left configured; different alphabets — `ValueError` -/
theorem calculate_spec (pt st : Tag) (pssm seq : Term) :
    calculate pt st pssm seq =
      if pt = st then .ok (.app2 .score pssm (.app2 .configure seq pssm), .app2 .configure seq pssm)
      else .error .valueError := rfl

/-- the sequence object after it has been scored with a list of motifs, in order -/
def configured (seq : Term) : List Term → Term
  | [] => seq
  | pssm :: rest => configured (.app2 .configure seq pssm) rest

/-- the scores of the i-th call: the core's `score` on the sequence configured with motifs `0..i` in order -/
def chainScores (seq : Term) : List Term → List Term
  | [] => []
  | pssm :: rest => .app2 .score pssm (.app2 .configure seq pssm) :: chainScores (.app2 .configure seq pssm) rest

/-- C17, histories: ONE striped sequence scored with any list of motifs of its own alphabet, in any
    order of widths: the i-th result is the core's score of motif i on the sequence as configured by
    motifs 0..i (which C04 shows to hold the same symbols), and the object ends up configured by all -/
theorem calculateAll_spec (st : Tag) (seq : Term) (pssms : List Term) :
    calculateAll st seq (pssms.map fun p => (st, p)) = .ok (chainScores seq pssms, configured seq pssms) := by
  induction pssms generalizing seq with
  | nil => rfl
  | cons p rest ih =>
    simp only [List.map_cons, calculateAll, calculate, if_true]
    rw [ih]
    rfl

/-- a motif of another alphabet anywhere in the history raises `ValueError` -/
theorem calculateAll_mismatch (st pt : Tag) (hne : pt ≠ st) (seq : Term) (before : List Term) (p : Term)
    (after : List (Tag × Term)) :
    calculateAll st seq ((before.map fun q => (st, q)) ++ (pt, p) :: after) = .error .valueError := by
  induction before generalizing seq with
  | nil => simp [calculateAll, calculate, hne]
  | cons q rest ih =>
    simp only [List.map_cons, List.cons_append, calculateAll, calculate, if_true]
    rw [ih]

example : calculateAll .dna (.arg "s") [(.dna, .arg "p0"), (.dna, .arg "p1")] =
    .ok ([.app2 .score (.arg "p0") (.app2 .configure (.arg "s") (.arg "p0")),
          .app2 .score (.arg "p1") (.app2 .configure (.app2 .configure (.arg "s") (.arg "p0")) (.arg "p1"))],
         .app2 .configure (.app2 .configure (.arg "s") (.arg "p0")) (.arg "p1")) ∧
    calculateAll .dna (.arg "s") [(.dna, .arg "p0"), (.protein, .arg "p1")] = .error .valueError := by decide +kernel

/-! ### conversions, reverse complement, scanner -/

/-- C17, `pvalue` / `score`: `"meme"` goes through the (cached) score distribution with the `f32` casts,
    `"tfmpvalue"` through `TfmPvalue::new(&pssm)`; any other method is a `ValueError` -/
theorem pvalue_spec (pssm : Term) (x : Nat) (method : String) :
    pvalue pssm x method =
      if method = "tfmpvalue" then .ok (.app2 .tfmPvalue (.app1 .tfmNew pssm) (.f64 x))
      else if method = "meme" then
        .ok (.app2 .distPvalue (.app1 .toScoreDistribution pssm) (.app1 .f64ToF32 (.f64 x)))
      else .error .valueError := rfl

theorem scoreOf_spec (pssm : Term) (x : Nat) (method : String) :
    scoreOf pssm x method =
      if method = "tfmpvalue" then .ok (.app2 .tfmScore (.app1 .tfmNew pssm) (.f64 x))
      else if method = "meme" then
        .ok (.app1 .f32ToF64 (.app2 .distScore (.app1 .toScoreDistribution pssm) (.f64 x)))
      else .error .valueError := rfl

example : pvalue (.arg "m") 1 "foo" = .error .valueError ∧
    pvalue (.arg "m") 1 "meme" = .ok (.app2 .distPvalue (.app1 .toScoreDistribution (.arg "m")) (.app1 .f64ToF32 (.f64 1))) := by
  decide +kernel

/-- C17, `reverse_complement`: the core's for DNA, `RuntimeError` for protein -/
theorem reverseComplement_spec (pssm : Term) :
    reverseComplement .dna pssm = .ok (.app1 .reverseComplement pssm) ∧
    reverseComplement .protein pssm = .error .runtimeError := ⟨rfl, rfl⟩

/-- C17, `Scanner` / `scan`: for a DNA matrix on a DNA sequence, the core's scanner over the configured
    sequence with the given threshold and block size; every other combination is a `ValueError` -/
theorem scannerInit_spec (pt st : Tag) (pssm seq : Term) (thr block : Nat) :
    scannerInit pt st pssm seq thr block =
      if pt = .dna ∧ st = .dna then
        .ok (.app2 .scannerBlockSize
              (.app2 .scannerThreshold (.app2 .scannerNew pssm (.app2 .configure seq pssm)) (.f32 thr)) (.nat block))
      else .error .valueError := by
  cases pt <;> cases st <;> rfl

example : scannerInit .protein .protein (.arg "p") (.arg "s") 0 256 = .error .valueError := by decide +kernel

/-! ### `create`, `stripe` -/

/-- C17, `create`: every item a `str` over the alphabet, all of one length — the motif is
    `(counts, counts.to_freq(0).to_weight(None), that.to_scoring())` with `counts = from_sequences(encode(·))` -/
theorem create_ok (tag : Tag) (seqs : List (List UInt8))
    (hv : ∀ s ∈ seqs, s.all (fun b => ((tagAlphabet tag).fromAscii b).isSome) = true)
    (hl : ∀ s ∈ seqs, s.length = (seqs.headD []).length) :
    create tag (seqs.map some) =
      .ok (motifFromCounts (.app1 .fromSequences (.app1 .encode (.arg "sequences")))) := by
  have hloop : ∀ l : List (List UInt8), (∀ s ∈ l, s.all (fun b => ((tagAlphabet tag).fromAscii b).isSome) = true) →
      create.loop (tagAlphabet tag) (l.map some) = .ok () := by
    intro l
    induction l with
    | nil => intro _; rfl
    | cons x rest ih =>
      intro h
      rw [List.map_cons, create.loop, if_pos (h x List.mem_cons_self)]
      exact ih (fun s hs => h s (List.mem_cons_of_mem _ hs))
  have hlens : ((seqs.map some).map fun i => (i.getD []).length) = seqs.map List.length := List.map_map ..
  have hhead : (seqs.map List.length).headD 0 = (seqs.headD []).length := by cases seqs <;> rfl
  have hall : (seqs.map List.length).all (· == (seqs.map List.length).headD 0) = true := by
    rw [hhead, List.all_map]
    exact List.all_eq_true.mpr fun s hs => beq_iff_eq.mpr (hl s hs)
  unfold create
  simp only [hloop seqs hv]
  rw [hlens, if_pos hall]

/-- whatever the items are, `create` raises only `TypeError` (an item is not a `str`) or `ValueError`
    (a symbol outside the alphabet, unequal lengths) -/
theorem create_errors (tag : Tag) (items : List (Option (List UInt8))) (e : Exc)
    (h : create tag items = .error e) : e = .typeError ∨ e = .valueError := by
  have hloop : ∀ l e, create.loop (tagAlphabet tag) l = .error e → e = .typeError ∨ e = .valueError := by
    intro l e
    fun_induction create.loop (tagAlphabet tag) l
    case case3 _ ih => exact ih  -- a `str` over the alphabet: the loop goes on
    all_goals intro h; cases h
    · exact .inl rfl
    · exact .inr rfl
  revert h
  fun_cases create tag items
  all_goals intro h; cases h
  · exact hloop _ _ ‹_›
  · exact .inr rfl

example : create .dna [some [65, 67], some [71, 84]] =
      .ok (motifFromCounts (.app1 .fromSequences (.app1 .encode (.arg "sequences")))) ∧
    create .dna [some [65, 67], none] = .error .typeError ∧
    create .dna [some [65, 90], none] = .error .valueError ∧
    create .dna [some [65, 67], some [71]] = .error .valueError := by decide +kernel

/-- C17, `stripe`: `encode` then `to_striped` for a text over the alphabet, `ValueError` otherwise -/
theorem stripe_spec (tag : Tag) (text : List UInt8) :
    stripe tag text =
      if text.all (fun b => ((tagAlphabet tag).fromAscii b).isSome) then
        .ok (.app1 .toStriped (.app1 .encode (.arg "sequence")))
      else .error .valueError := rfl

/-! ### `load` -/

/-- C17, `load`: a readable file and one of the four formats (JASPAR only for DNA) select the reader of
    that format; a missing file is an `OSError`, a text-mode file a `TypeError`, an unknown format or a
    protein JASPAR file a `ValueError` -/
theorem loaderInit_spec (format : String) (protein : Bool) :
    loaderInit .binary "jaspar" false = .ok (.app1 .readJaspar (.arg "file")) ∧
    loaderInit .binary "jaspar" true = .error .valueError ∧
    loaderInit .binary "jaspar16" protein = .ok (.app1 .readJaspar16 (.arg "file")) ∧
    loaderInit .binary "transfac" protein = .ok (.app1 .readTransfac (.arg "file")) ∧
    loaderInit .binary "uniprobe" protein = .ok (.app1 .readUniprobe (.arg "file")) ∧
    loaderInit (.path false) format protein = .error .osError ∧
    loaderInit .text format protein = .error .typeError ∧
    (format ≠ "jaspar" → format ≠ "jaspar16" → format ≠ "transfac" → format ≠ "uniprobe" →
      loaderInit .binary format protein = .error .valueError) := by
  unfold loaderInit
  simp +contextual

/-- C17, `load` on a file object that passes the `read(0)` probe and fails afterwards: the outcome is the
    exception of the file object (or the `ValueError` of the format), raised by `load` itself exactly when
    the reader of that format reads while it is created and the exception is a pending Python exception;
    otherwise `load` succeeds and the first record raises it.  In no case is a result returned with an
    exception pending (the model has no such outcome: `Res` is a value or ONE exception). -/
theorem loaderInit_lateBad (e : Exc) (format : String) (protein : Bool)
    (hf : format = "jaspar" ∧ protein = false ∨ format = "jaspar16" ∨ format = "transfac" ∨ format = "uniprobe") :
    (loaderInit (.lateBad e) format protein = .error e ∧ e ≠ .osError ∧ readsAtCreation format = true) ∨
    (loaderInit (.lateBad e) format protein = loaderInit .binary format protein ∧
      (e = .osError ∨ readsAtCreation format = false) ∧ convertRecord format (.errPy e) = .error e) := by
  -- among exceptions the glue only distinguishes `OSError`
  unfold loaderInit readsAtCreation convertRecord
  by_cases he : e = .osError <;> rcases hf with ⟨rfl, rfl⟩ | rfl | rfl | rfl <;> simp [he]

/-- an unknown format (or a protein JASPAR file) is a `ValueError` before anything is read -/
theorem loaderInit_lateBad_format (e : Exc) (format : String) (protein : Bool) :
    loaderInit .binary format protein = .error .valueError →
    loaderInit (.lateBad e) format protein = .error .valueError := by
  unfold loaderInit
  intro h
  by_cases h1 : format = "jaspar"
  · subst h1; cases protein <;> simp_all
  by_cases h2 : format = "jaspar16"
  · subst h2; simp at h
  by_cases h3 : format = "transfac"
  · subst h3; simp at h
  by_cases h4 : format = "uniprobe"
  · subst h4; simp at h
  simp [h1, h2, h3, h4]

/-- C17, records: a parsed record becomes `Motif::from_counts(record counts)` (JASPAR, JASPAR16, TRANSFAC)
    or `Motif::from_weights(frequencies.to_weight(None))` (UniPROBE); reader errors are `ValueError`
    (`OSError` for I/O), a TRANSFAC record without a count matrix is a `ValueError` -/
theorem convertRecord_spec :
    convertRecord "jaspar" (.ok true) = .ok (motifFromCounts (.app1 .recordIntoCounts (.arg "record"))) ∧
    convertRecord "jaspar16" (.ok true) = .ok (motifFromCounts (.app1 .recordIntoCounts (.arg "record"))) ∧
    convertRecord "transfac" (.ok true) = .ok (motifFromCounts (.app1 .recordToCounts (.arg "record"))) ∧
    convertRecord "transfac" (.ok false) = .error .valueError ∧
    convertRecord "uniprobe" (.ok true) =
      .ok (motifFromWeights (.app1 .toWeight (.app1 .recordIntoFreqs (.arg "record")))) ∧
    (∀ f, convertRecord f .errIo = .error .osError) ∧
    (∀ f, convertRecord f .errData = .error .valueError) ∧
    (∀ f, convertRecord f .errParse = .error .valueError) := by
  unfold convertRecord
  simp

/-! ### transfer: the Python value is the core value of the composition

  Three instances of the one step every `_spec` above allows: `Term.eval` of the composition named
  there (`Except.map` over `.ok` and the equations of `Term.eval`). -/

/-- under ANY interpretation of the core operations, the value Python returns for `log_odds` with a
    valid background that differs from the matrix's own is
    `to_scoring_with_base(rescale(self, Background::new(p)), base)` computed by that interpretation -/
theorem logOdds_eval {V : Type} (I : Interp V) (F : F32Ops) (A : Alphabet) (self : Term) (selfBg : List Nat)
    (es : List DictEntry) (p : List Nat) (base : Nat)
    (hd : dictToAlphabetArray A es = .ok p) (hv : F.bgValid p = true) (hne : F.freqsNe p selfBg = true) :
    (logOdds F A self selfBg (.dict es) base).map (Term.eval I) =
      .ok (I.op2 .toScoringWithBase (I.op2 .rescale (self.eval I) (I.op1 .bgNew (I.arr p))) (I.f32 base)) := by
  rw [logOdds_applies_background F A self selfBg es p base hd hv hne]
  rfl

/-- … and for `normalize` with a dictionary of pseudocounts -/
theorem normalize_eval {V : Type} (I : Interp V) (A : Alphabet) (self : Term) (es : List DictEntry) (p : List Nat)
    (hd : dictToAlphabetArray A es = .ok p) :
    (normalize A self (.dict es)).map (Term.eval I) =
      .ok (I.op1 .toWeight (I.op2 .toFreq (self.eval I) (I.op1 .pseudoArray (I.arr p)))) := by
  rw [normalize_dict hd]
  rfl

/-- … and for the first call of a reuse history; the later calls are the same statement about the
    sequence as configured so far -/
theorem chainScores_eval {V : Type} (I : Interp V) (seq : Term) (p : Term) (rest : List Term) :
    (chainScores seq (p :: rest)).map (Term.eval I) =
      I.op2 .score (p.eval I) (I.op2 .configure (seq.eval I) (p.eval I))
        :: (chainScores (.app2 .configure seq p) rest).map (Term.eval I) := rfl

end C17
end LMV
