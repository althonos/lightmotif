/-
  LMV.Lemmas.Outcome — the shape "panics exactly when `guard`, and otherwise returns something with
  `P`" of a function with one panic site that an in-contract call can reach (the size guard of the
  vector arg-max kernels of C07, `panic!("booh")` of the sampler's `_new`).  Core Lean only.
-/
namespace LMV

-- core derives none; the `decide` examples of C05, C07, C08 compare outcomes
deriving instance DecidableEq for Except

variable {ε β : Type} {guard : Prop} {P : β → Prop} {r : Except ε β}

def OkUnless (guard : Prop) (P : β → Prop) : Except ε β → Prop
  | .error _ => guard
  | .ok b => ¬ guard ∧ P b

namespace OkUnless

theorem error_iff (h : OkUnless guard P r) : (∃ e, r = .error e) ↔ guard := by
  cases r with
  | error e => exact ⟨fun _ => h, fun _ => ⟨e, rfl⟩⟩
  | ok b => exact ⟨fun ⟨_, e⟩ => (by cases e), fun g => absurd g h.1⟩

theorem of_ok (h : OkUnless guard P r) {b : β} (e : r = .ok b) : P b := by
  subst e; exact h.2

theorem ok_of_not (h : OkUnless guard P r) (hg : ¬ guard) : ∃ b, r = .ok b ∧ P b := by
  cases r with
  | error e => exact absurd h hg
  | ok b => exact ⟨b, rfl, h.2⟩

theorem imp (h : OkUnless guard P r) {guard' : Prop} {Q : β → Prop}
    (hg : guard ↔ guard') (hP : ∀ b, P b → Q b) : OkUnless guard' Q r := by
  cases r with
  | error e => exact hg.1 h
  | ok b => exact ⟨fun g => h.1 (hg.2 g), hP b h.2⟩

theorem ok {b : β} (hg : ¬ guard) (hb : P b) : OkUnless guard P (.ok b : Except ε β) := ⟨hg, hb⟩

end OkUnless
end LMV
