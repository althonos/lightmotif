/-
  LMV.Lemmas.Sums — folds over lists (step of a `List.range` fold, the loop in which one iteration
  acts, extensionality, induction from the right, a list as the image of its indices), the
  arithmetic of a grid enumerated column by column, and finite sums `Σ_{i<n} g i` (core Lean only).

  `Sampler.sumTo`, the recursive form, is THE finite sum of the development (named after the
  sampler, whose invariants are stated with it); `C04.countSymbol_eq_sum` alone is stated with the
  fold form `LMV.sumTo`, identified with it in Lemmas/Stripe.lean.
-/
namespace LMV

theorem foldl_range_succ {β : Type} (f : β → Nat → β) (b : β) (n : Nat) :
    (List.range (n + 1)).foldl f b = f ((List.range n).foldl f b) n := by
  rw [List.range_succ, List.foldl_append]; rfl

/-- a loop over `0..n` in which only iteration `a₀` changes the state (a compare-and-select chain, a
    masked accumulation, the sum of an indicator) is that one iteration, or nothing when `a₀` is
    not reached -/
theorem foldl_range_single {β : Type} (F : β → Nat → β) (a₀ n : Nat)
    (h : ∀ b k, k < n → k ≠ a₀ → F b k = b) (b : β) :
    (List.range n).foldl F b = if a₀ < n then F b a₀ else b := by
  induction n with
  | zero => rfl
  | succ n ih =>
    rw [foldl_range_succ, ih fun b k hk => h b k (Nat.lt_succ_of_lt hk)]
    by_cases e : n = a₀
    · rw [← e, if_neg (Nat.lt_irrefl n), if_pos (Nat.lt_succ_self n)]
    · rw [h _ n (Nat.lt_succ_self n) e]
      by_cases hlt : a₀ < n
      · rw [if_pos hlt, if_pos (Nat.lt_succ_of_lt hlt)]
      · rw [if_neg hlt, if_neg fun h' => hlt (Nat.lt_of_le_of_ne (Nat.le_of_lt_succ h') (Ne.symm e))]

theorem sum_indicator (x K : Nat) :
    ((List.range K).map (fun a => if x = a then 1 else 0)).sum = if x < K then 1 else 0 := by
  rw [List.sum_eq_foldl_nat, List.foldl_map,
    foldl_range_single _ x K fun b k _ hk => by rw [if_neg (Ne.symm hk)]; rfl, if_pos rfl]

theorem foldl_ext_mem {β γ : Type} (f g : β → γ → β) (l : List γ)
    (H : ∀ a, ∀ b ∈ l, f a b = g a b) (a : β) : l.foldl f a = l.foldl g a :=
  List.foldl_rel rfl fun b hb _ _ h => h ▸ H _ b hb

theorem list_snoc_induction {γ : Type} {P : List γ → Prop} (nil : P [])
    (snoc : ∀ l a, P l → P (l ++ [a])) (l : List γ) : P l := by
  have h : ∀ l : List γ, P l.reverse := by
    intro l
    induction l with
    | nil => exact nil
    | cons a l ih => rw [List.reverse_cons]; exact snoc _ _ ih
  rw [← List.reverse_reverse l]; exact h _

theorem eq_map_range_getD {β : Type} (p : List β) (z : β) :
    p = (List.range p.length).map (fun i => p.getD i z) :=
  List.ext_getElem (by rw [List.length_map, List.length_range]) fun i h _ => by
    rw [List.getElem_map, List.getElem_range, List.getD_eq_getElem?_getD, List.getElem?_eq_getElem h,
      Option.getD_some]

/-! ### a grid of `R` rows enumerated column by column: cell `(x, c)` ↔ position `c * R + x` -/

theorem pos_mod (R c x : Nat) (hx : x < R) : (c * R + x) % R = x := by
  rw [Nat.add_comm, Nat.add_mul_mod_self_right]; exact Nat.mod_eq_of_lt hx

theorem pos_div (R c x : Nat) (hx : x < R) : (c * R + x) / R = c := by
  rw [Nat.add_comm, Nat.add_mul_div_right _ _ (Nat.zero_lt_of_lt hx), Nat.div_eq_of_lt hx, Nat.zero_add]

theorem offset_inj (R : Nat) (c d : Nat × Nat) (hc : c.1 < R) (hd : d.1 < R)
    (h : c.2 * R + c.1 = d.2 * R + d.1) : c = d :=
  Prod.ext (by rw [← pos_mod R c.2 c.1 hc, h, pos_mod R d.2 d.1 hd])
    (by rw [← pos_div R c.2 c.1 hc, h, pos_div R d.2 d.1 hd])

theorem pos_add_le {R C c x : Nat} (hc : c < C) (hx : x ≤ R) : c * R + x ≤ C * R :=
  calc c * R + x ≤ c * R + R := Nat.add_le_add_left hx _
    _ = (c + 1) * R := (Nat.succ_mul c R).symm
    _ ≤ C * R := Nat.mul_le_mul_right R hc

theorem pos_lt {R C c x : Nat} (hc : c < C) (hx : x < R) : c * R + x < C * R :=
  pos_add_le (x := x + 1) hc hx

theorem pos_coord {R C p : Nat} (h : p < C * R) : p % R < R ∧ p / R < C ∧ p / R * R + p % R = p :=
  ⟨Nat.mod_lt _ (Nat.pos_of_mul_pos_left (Nat.zero_lt_of_lt h)),
    Nat.div_lt_of_lt_mul (Nat.mul_comm C R ▸ h), Nat.div_add_mod' p R⟩

/-- `⌈n / a⌉` units of `a` cover `n` -/
theorem le_ceilDiv_mul {a : Nat} (ha : 0 < a) (n : Nat) : n ≤ (n + (a - 1)) / a * a :=
  Nat.le_of_add_le_add_right <|
    calc n + (a - 1) = (n + (a - 1)) / a * a + (n + (a - 1)) % a := (Nat.div_add_mod' _ a).symm
      _ ≤ (n + (a - 1)) / a * a + (a - 1) :=
        Nat.add_le_add_left (Nat.le_sub_one_of_lt (Nat.mod_lt _ ha)) _

/-! ### finite sums -/

namespace Sampler

/-- `Σ_{i<n} f i`.  The sampler's invariants and the counting lemmas of `Striped` are stated with
    it; nothing about it is specific to the sampler. -/
def sumTo : Nat → (Nat → Nat) → Nat
  | 0, _ => 0
  | n + 1, f => sumTo n f + f n

-- `_n`: `LMV.sumTo_zero` is the same fact about the fold form, and both namespaces are often open
@[simp] theorem sumTo_zero_n (f : Nat → Nat) : sumTo 0 f = 0 := rfl
theorem sumTo_succ (n : Nat) (f : Nat → Nat) : sumTo (n + 1) f = sumTo n f + f n := rfl

theorem sumTo_congr {n : Nat} {f g : Nat → Nat} (h : ∀ i, i < n → f i = g i) :
    sumTo n f = sumTo n g := by
  induction n with
  | zero => rfl
  | succ n ih =>
    rw [sumTo_succ, sumTo_succ, ih (fun i hi => h i (Nat.lt_succ_of_lt hi)), h n (Nat.lt_succ_self n)]

@[simp] theorem sumTo_const_zero (n : Nat) : sumTo n (fun _ => 0) = 0 := by
  induction n with
  | zero => rfl
  | succ n ih => rw [sumTo_succ, ih]

theorem sumTo_add (n : Nat) (f g : Nat → Nat) :
    sumTo n (fun i => f i + g i) = sumTo n f + sumTo n g := by
  induction n with
  | zero => rfl
  | succ n ih => rw [sumTo_succ, sumTo_succ, sumTo_succ, ih, Nat.add_add_add_comm]

theorem _root_.LMV.foldl_add_init (n : Nat) (g : Nat → Nat) (a0 : Nat) :
    (List.range n).foldl (fun a i => a + g i) a0 = a0 + sumTo n g := by
  induction n with
  | zero => rfl
  | succ n ih => rw [foldl_range_succ, ih, sumTo_succ, Nat.add_assoc]

theorem sumTo_single (n : Nat) (g : Nat → Nat) (a : Nat) :
    sumTo n (fun k => if k = a then g k else 0) = if a < n then g a else 0 := by
  rw [← Nat.zero_add (sumTo _ _), ← foldl_add_init,
    foldl_range_single _ a n fun b k _ hk => by rw [if_neg hk]; rfl, if_pos rfl, Nat.zero_add]

theorem sumTo_split {n : Nat} (f : Nat → Nat) {z : Nat} (hz : z < n) :
    sumTo n f = sumTo n (fun i => if i = z then 0 else f i) + f z := by
  have h := sumTo_single n f z
  rw [if_pos hz] at h
  rw [← h, ← sumTo_add]
  exact sumTo_congr fun i _ => by
    split
    · exact (Nat.zero_add _).symm
    · rfl

theorem sumTo_term_le {n : Nat} (f : Nat → Nat) {z : Nat} (hz : z < n) : f z ≤ sumTo n f := by
  rw [sumTo_split f hz]; exact Nat.le_add_left _ _

theorem sumTo_eq_zero {n : Nat} {f : Nat → Nat} : sumTo n f = 0 ↔ ∀ i, i < n → f i = 0 := by
  constructor
  · intro h i hi
    exact Nat.le_zero.mp (h ▸ sumTo_term_le f hi)
  · intro h
    rw [← sumTo_const_zero n]; exact sumTo_congr h

theorem sumTo_const_one (n : Nat) : sumTo n (fun _ => 1) = n := by
  induction n with
  | zero => rfl
  | succ n ih => rw [sumTo_succ, ih]

theorem sumTo_append (a b : Nat) (g : Nat → Nat) :
    sumTo (a + b) g = sumTo a g + sumTo b (fun i => g (a + i)) := by
  induction b with
  | zero => rfl
  | succ b ih => rw [← Nat.add_assoc, sumTo_succ, sumTo_succ, ih, Nat.add_assoc]

theorem sumTo_mono_n {n m : Nat} (f : Nat → Nat) (h : n ≤ m) : sumTo n f ≤ sumTo m f := by
  obtain ⟨d, rfl⟩ := Nat.exists_eq_add_of_le h
  rw [sumTo_append]; exact Nat.le_add_right _ _

theorem sumTo_extend {l m : Nat} (g : Nat → Nat) (h : l ≤ m) (hz : ∀ k, l ≤ k → g k = 0) :
    sumTo m g = sumTo l g := by
  obtain ⟨d, rfl⟩ := Nat.exists_eq_add_of_le h
  have : sumTo d (fun i => g (l + i)) = 0 := sumTo_eq_zero.mpr fun i _ => hz _ (Nat.le_add_right l i)
  rw [sumTo_append, this]; rfl

theorem sumTo_swap (R C : Nat) (f : Nat → Nat → Nat) :
    sumTo R (fun i => sumTo C (fun j => f i j)) = sumTo C (fun j => sumTo R (fun i => f i j)) := by
  induction R with
  | zero => rw [sumTo_zero_n]; symm; rw [sumTo_eq_zero]; intro _ _; rfl
  | succ R ih =>
    rw [sumTo_succ, ih, ← sumTo_add]
    apply sumTo_congr
    intro j _
    rw [sumTo_succ]

theorem sumTo_grid (C R : Nat) (g : Nat → Nat) :
    sumTo C (fun j => sumTo R (fun i => g (j * R + i))) = sumTo (C * R) g := by
  induction C with
  | zero => rw [Nat.zero_mul]; rfl
  | succ C ih => rw [sumTo_succ, ih, Nat.succ_mul, sumTo_append]

theorem sumTo_window (L a w : Nat) (g : Nat → Nat) (h : a + w ≤ L) :
    sumTo L (fun k => if a ≤ k ∧ k < a + w then g k else 0) = sumTo w (fun j => g (a + j)) := by
  -- `L` is what precedes the window, the window, and what follows it
  obtain ⟨r, rfl⟩ := Nat.exists_eq_add_of_le h
  rw [sumTo_append, sumTo_append,
    (sumTo_eq_zero (n := a)).mpr fun k hk => if_neg fun h' => Nat.not_le_of_lt hk h'.1,
    (sumTo_eq_zero (n := r)).mpr fun i _ => if_neg fun h' => Nat.not_lt_of_le (Nat.le_add_right _ i) h'.2,
    Nat.zero_add, Nat.add_zero]
  exact sumTo_congr fun j hj => if_pos ⟨Nat.le_add_right a j, Nat.add_lt_add_left hj a⟩

/-- `N` is never read: every `p` is a position of `s` -/
theorem sumTo_count (s : List Nat) (N sym : Nat) :
    sumTo s.length (fun p => if s.getD p N = sym then 1 else 0) = s.count sym := by
  induction s with
  | nil => rfl
  | cons x xs ih =>
    rw [List.length_cons, Nat.add_comm, sumTo_append, List.count_cons, ← ih]
    simp only [sumTo_succ, sumTo_zero_n, Nat.add_comm 1, List.getD_cons_succ, List.getD_cons_zero,
      Nat.zero_add, beq_iff_eq]
    exact Nat.add_comm _ _

end Sampler

end LMV
