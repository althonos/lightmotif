/-
  LMV.Lemmas.Uniprobe — the UniPROBE reader never panics, and a successful `next` strictly
  decreases `|stream| + |pending line|`.  Core Lean only.
-/
import LMV.Model.Uniprobe
import LMV.Lemmas.Build

namespace LMV
namespace Uniprobe

open Io Nom

variable {α : Type}

theorem eats_frequencies (conv : Bytes → Option α) : Eats 1 (frequencies conv) :=
  ((eats_char _).preceded (eats_float conv)).many1

theorem eats_matrixColumn (A : Alphabet) (conv : Bytes → Option α) : Eats 4 (matrixColumn A conv) :=
  ((eats_symbol A).separatedPair (eats_char _) (eats_frequencies conv)).terminated eats_lineEnding

theorem good_matrixColumn (A : Alphabet) (conv : Bytes → Option α) : Good (matrixColumn A conv) :=
  (eats_matrixColumn A conv).good

theorem eats_idLine : Eats 1 idLine := (eats_notLineEnding.terminated eats_lineEnding).pmap _

theorem buildMatrix_noPanic {A : Alphabet} (zero : α) (input : List (Nat × List α))
    (hl : ∀ p ∈ input, p.1 < A.K) (site : String) : buildMatrix A zero input ≠ .panic site := by
  unfold buildMatrix
  cases input with
  | nil => simp
  | cons p rest => exact buildSymLoop_noPanic _ hl _ _ _

/-- `columnsLoop` without the proof its recursion carries -/
theorem columnsLoop_eq (A : Alphabet) (conv : Bytes → Option α) (acc : List (Nat × List α))
    (sched : List Nat) (data : Bytes) :
    columnsLoop A conv acc sched data =
      match advance [] sched data with
      | .ioErr _ d s => .ioErr d s
      | .eof b d s => .stop acc b false d s
      | .found b d s =>
        match matrixColumn A conv b with
        | .ok _ col => columnsLoop A conv (acc ++ [col]) s d
        | _ => .stop acc b true d s := by
  rw [columnsLoop]
  split
  · rename_i h; rw [h]
  · rename_i h; rw [h]
  · rename_i h; rw [h]; rfl

/-- the second part is `measure` (below) of the state the loop stops in: reading the matrix lines
    gains nothing on the data the loop started with -/
theorem columnsLoop_stop {A : Alphabet} (hA : A.IndexOK) (conv : Bytes → Option α)
    (acc : List (Nat × List α)) (sched : List Nat) (data : Bytes) (hacc : ∀ p ∈ acc, p.1 < A.K)
    {cols : List (Nat × List α)} {b : Bytes} {line : Bool} {d : Bytes} {s : List Nat}
    (hs : columnsLoop A conv acc sched data = .stop cols b line d s) :
    (∀ p ∈ cols, p.1 < A.K) ∧ d.length + (if line then b.length else 0) ≤ data.length := by
  fun_induction columnsLoop A conv acc sched data
  case case1 => cases hs
  -- the end of the stream: nothing is pending
  case case2 sched data _ _ _ ha =>
    cases hs
    have := (advance_le [] sched data).1
    rw [ha] at this
    exact ⟨hacc, this⟩
  -- a matrix line: the loop goes on, with less in the stream
  case case3 sched data _ _ _ ha _ _ hc ih =>
    obtain ⟨g1, g2⟩ :=
      ih (List.forall_mem_append.mpr ⟨hacc, List.forall_mem_singleton.mpr (symbolLine_lt hA hc)⟩) hs
    exact ⟨g1, Nat.le_trans g2 (Nat.le_of_lt ((advance_le [] sched data).2 _ _ _ ha))⟩
  -- any other line stays pending: it came out of the stream
  case case4 sched data _ _ _ ha _ =>
    cases hs
    have h1 := ((advance_size [] sched data).2 _ _ _ ha).1
    rw [List.length_nil, Nat.zero_add, Nat.add_comm] at h1
    exact ⟨hacc, h1⟩

def measure (s : State) : Nat := s.data.length + (if s.line then s.buffer.length else 0)

/-- what C15 asks of the UniPROBE reader; no panic relies on the library's fix of `build_matrix` on an
    empty list of columns (was `input[0]`) -/
theorem next_ok {A : Alphabet} (hA : A.IndexOK) (conv : Bytes → Option α) (zero : α)
    (freqOk : Mat α A.K → Bool) (s : State) :
    CallOK (fun _ => True) measure s (next A conv zero freqOk s) := by
  fun_cases next A conv zero freqOk s
  -- `build_matrix` would panic
  case case4 hcl _ site hb =>
    exact absurd hb
      (buildMatrix_noPanic zero _ (columnsLoop_stop hA conv [] _ _ (fun _ h => nomatch h) hcl).1 site)
  -- a record is delivered.  Its id line `b` is not empty; either it was just read, and the stream is
  -- shorter, or it was pending, and the measure counts it.  The record leaves less: `columnsLoop`
  -- gains nothing
  case case6 pending b d sc hpend _ _ hid _ _ _ _ _ hcl _ _ _ _ =>
    have hb1 : 0 < b.length := Nat.lt_of_lt_of_le (Nat.succ_pos _) (eats_idLine.le hid)
    have hp : d.length < measure s := by
      by_cases hline : s.line = true
      · simp only [pending, hline, if_true] at hpend
        cases hpend
        simp only [measure, hline, if_true]
        exact Nat.lt_add_of_pos_right hb1
      · simp only [pending, hline] at hpend
        simp only [measure, hline]
        exact (advance_le s.buffer s.sched s.data).2 b d sc hpend
    exact ⟨fun _ h => (nomatch h), trivial, fun _ _ =>
      Nat.lt_of_le_of_lt (columnsLoop_stop hA conv [] sc d (fun _ h => nomatch h) hcl).2 hp⟩
  -- the id line does not parse
  case case8 b _ _ _ hne =>
    cases he : idLine b with
    | ok r v => exact absurd he (hne r v)
    | incomplete => exact absurd he (eats_idLine.noInc b)
    | _ => exact .quiet rfl rfl trivial
  all_goals exact .quiet rfl rfl trivial
end Uniprobe
end LMV
