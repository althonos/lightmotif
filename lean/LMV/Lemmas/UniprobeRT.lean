/-
  LMV.Lemmas.UniprobeRT — round trip of the UniPROBE format.  Float lexemes and `symbol` on a
  letter are in `Lemmas/Render.lean` and `Lemmas/Build.lean`.  Core Lean only.
-/
import LMV.Lemmas.Uniprobe
import LMV.Lemmas.Render
import LMV.Lemmas.Reader
import LMV.Lemmas.BuildSpec

namespace LMV
namespace Uniprobe

open Io Nom

variable {α : Type}

/-! ### the clauses of `WFId` and `WF`, by name -/

namespace WFId

variable {id : Bytes} (h : WFId id)
include h

theorem trimmed : trim id = id := h.2.1
theorem no_eol : ∀ b ∈ id, b ≠ 0x0A ∧ b ≠ 0x0D := h.2.2.1
theorem utf8 : validUtf8 id = true := h.2.2.2.1
theorem second : (id.drop 1).head? ≠ some 0x3A := h.2.2.2.2

end WFId

namespace WF

variable {A : Alphabet} {conv : Bytes → Option α} {zero : α} {freqOk : Mat α A.K → Bool} {r : Src}
  (h : WF A conv zero freqOk r)
include h

theorem wfId : WFId r.id := h.1
theorem ne : r.cols ≠ [] := h.2.1
theorem lt : ∀ c ∈ r.cols, c.1 < A.K := h.2.2.1
theorem nodup : (r.cols.map (·.1)).Nodup := h.2.2.2.1
theorem len : ∀ c ∈ r.cols, c.2.length = (r.cols.headD (0, [])).2.length := h.2.2.2.2.1
theorem pos : 0 < (r.cols.headD (0, [])).2.length := h.2.2.2.2.2.1
theorem lex : ∀ c ∈ r.cols, ∀ lex ∈ c.2, wfLex lex = true ∧ (conv lex).isSome = true := h.2.2.2.2.2.2.1
theorem freq : freqOk (expectMatrix A conv zero r) = true := h.2.2.2.2.2.2.2

end WF

/-! ### a matrix line -/

def tabbed (lexs : List Bytes) : Bytes := lexs.flatMap fun lex => 0x09 :: lex

theorem tabElem (conv : Bytes → Option α) (zero : α) (lex : Bytes) (h : wfLex lex = true)
    (hv : (conv lex).isSome = true) (t : UInt8) (ht : Stop t) (rest : Bytes) :
    preceded (char 0x09) (float conv) (0x09 :: (lex ++ t :: rest)) = .ok (t :: rest) ((conv lex).getD zero) := by
  obtain ⟨v, hv'⟩ := Option.isSome_iff_exists.mp hv
  apply preceded_eval (a := (0x09 : UInt8)) (r1 := lex ++ t :: rest) (by rfl)
  rw [hv']
  exact float_lex conv lex h v hv' t ht rest

theorem frequencies_render (conv : Bytes → Option α) (zero : α) (lexs : List Bytes) (hne : lexs ≠ [])
    (h : ∀ lex ∈ lexs, wfLex lex = true ∧ (conv lex).isSome = true) (rest : Bytes) :
    frequencies conv (tabbed lexs ++ 0x0A :: rest) = .ok (0x0A :: rest) (values conv zero lexs) := by
  -- what follows a lexeme: a tab (more lexemes) or the line feed
  have := manyLoop_flatMap (f := preceded (char 0x09) (float conv)) (ren := fun lex => 0x09 :: lex)
    (val := fun l => (conv l).getD zero) (P := fun y => ∃ t y', Stop t ∧ y = t :: y')
    (stop := 0x0A :: rest) lexs
    (fun lex hl y ⟨t, y', ht, e⟩ =>
      ⟨by rw [e]; exact tabElem conv zero lex (h lex hl).1 (h lex hl).2 t ht y', by simp⟩)
    (fun lex _ y => ⟨0x09, lex ++ y, Or.inl rfl, rfl⟩) ⟨0x0A, rest, Or.inr (Or.inl rfl), rfl⟩
    rfl []
  exact many1_of_manyLoop this (by simpa [values] using hne)

theorem matrixColumn_render {A : Alphabet} (hA : A.LettersOK) (conv : Bytes → Option α) (zero : α)
    (c : Nat × List Bytes) (hc : c.1 < A.K) (hne : c.2 ≠ [])
    (h : ∀ lex ∈ c.2, wfLex lex = true ∧ (conv lex).isSome = true) (rest : Bytes) :
    matrixColumn A conv (renderCol A c ++ rest) = .ok rest (c.1, values conv zero c.2) := by
  have e : renderCol A c ++ rest = A.letters.getD c.1 0 :: 0x3A :: (tabbed c.2 ++ 0x0A :: rest) :=
    List.append_assoc _ [0x0A] rest
  rw [e]
  exact terminated_eval
    (pair_eval (symbol_letter hA c.1 hc _)
      (preceded_eval (a := (0x3A : UInt8)) rfl (frequencies_render conv zero c.2 hne h rest)))
    (lineEnding_lf rest)

/-! ### the reader on a rendered file -/

theorem advance_nil (sched : List Nat) : ∃ s, advance [] sched [] = .eof [] [] s := by
  obtain ⟨h1, h2⟩ := readLine_nil sched
  exact ⟨_, by rw [advance_eq, h1, h2]; rfl⟩

theorem advance_line (sched : List Nat) (line more : Bytes) (hl : Plain 0x0A line)
    (hnb : isBlank (line ++ [0x0A]) = false) :
    ∃ s, advance [] sched (line ++ 0x0A :: more) = .found (line ++ [0x0A]) more s := by
  obtain ⟨h1, h2⟩ := readLine_line sched line more hl
  exact ⟨(readLine sched (line ++ 0x0A :: more)).2.2, by rw [advance_eq, h1, h2]; simp [hnb]⟩

theorem advance_blank (sched : List Nat) (more : Bytes) :
    ∃ s, advance [] sched (0x0A :: more) = advance [] s more := by
  obtain ⟨h1, h2⟩ := readLine_line sched [] more .nil
  simp only [List.nil_append] at h1 h2
  have hb : isBlank [0x0A] = true := by decide
  exact ⟨(readLine sched (0x0A :: more)).2.2, by rw [advance_eq, h1, h2]; rfl⟩

variable (A : Alphabet) (conv : Bytes → Option α) (zero : α)

/-- what is pending once the matrix lines of a motif have been read, the motifs `rs` following -/
def tailBuf : List Src → Bytes
  | [] => []
  | r :: _ => r.id ++ [0x0A]

def tailLine : List Src → Bool
  | [] => false
  | _ :: _ => true

/-- what the stream holds once the id line of the first of the motifs `rs` has been read -/
def tailData : List Src → Bytes
  | [] => []
  | r :: rs => r.cols.flatMap (renderCol A) ++ 0x0A :: render A rs

theorem render_cons (r : Src) (rs : List Src) :
    render A (r :: rs) = r.id ++ 0x0A :: tailData A (r :: rs) := by
  simp [render, render1, tailData]

theorem renderCol_line {A : Alphabet} (hA : A.LettersOK) (hB : LettersNotBlank A)
    (c : Nat × List Bytes) (hc : c.1 < A.K)
    (h : ∀ lex ∈ c.2, wfLex lex = true) :
    ∃ line, renderCol A c = line ++ [0x0A] ∧ Plain 0x0A line ∧ isBlank (line ++ [0x0A]) = false := by
  have hl := hA.ascii hc
  have hb := hB c.1 hc
  refine ⟨A.letters.getD c.1 0 :: 0x3A :: tabbed c.2, rfl, ?_,
    not_blank_ascii _ _ hl hb⟩
  exact .cons hl (fun e => by rw [e] at hb; revert hb; decide) (.cons (by decide) (by decide)
    (.flatMap fun lex hlex => .cons (by decide) (by decide) (plain_lex lex (h lex hlex))))

theorem plain_id {id : Bytes} (h : WFId id) : Plain 0x0A id :=
  ⟨fun hm => (h.no_eol _ hm).1 rfl, h.utf8⟩

theorem id_not_blank {id : Bytes} (h : WFId id) : isBlank (id ++ [0x0A]) = false := by
  cases id with
  | nil => exact absurd h.1 (by simp)
  | cons b tl => exact not_blank_ascii _ _ h.1.1 h.1.2

theorem idLine_render {id : Bytes} (h : WFId id) : idLine (id ++ [0x0A]) = .ok [] id := by
  unfold idLine
  rw [pmap_eval (terminated_eval (notLineEnding_eval id [] h.no_eol) (lineEnding_lf [])), h.trimmed]

/-- an id line is not taken for a matrix line: its second byte is not `:` -/
theorem matrixColumn_id {id : Bytes} (h : WFId id) : matrixColumn A conv (id ++ [0x0A]) = .err := by
  have hhead := h.1
  have hsec := h.second
  cases id with
  | nil => exact absurd hhead (by simp)
  | cons b tl =>
    have hcolon : char 0x3A (tl ++ [0x0A]) = .err := by
      cases tl with
      | nil => rfl
      | cons c tl' =>
        have : c ≠ 0x3A := by simpa using hsec
        simp [char, this]
    unfold matrixColumn terminated separatedPair preceded
    cases hs : A.fromAscii b <;>
      simp [pmap, pair, symbol_ascii A b hhead.1, hs, hcolon, PRes.map]

variable (freqOk : Mat α A.K → Bool)

def parsedCols (cols : List (Nat × List Bytes)) : List (Nat × List α) :=
  cols.map fun c => (c.1, values conv zero c.2)

def ColsOK (cols : List (Nat × List Bytes)) : Prop :=
  ∀ c ∈ cols, c.1 < A.K ∧ c.2 ≠ [] ∧ ∀ lex ∈ c.2, wfLex lex = true ∧ (conv lex).isSome = true

theorem columnsLoop_render (hA : A.LettersOK) (hB : LettersNotBlank A) (rs : List Src)
    (hrs : ∀ r ∈ rs, WFId r.id) (cols : List (Nat × List Bytes)) (hcols : ColsOK A conv cols) :
    ∀ (sched : List Nat) (acc : List (Nat × List α)),
      ∃ s', columnsLoop A conv acc sched (cols.flatMap (renderCol A) ++ 0x0A :: render A rs)
        = .stop (acc ++ parsedCols conv zero cols) (tailBuf rs) (tailLine rs) (tailData A rs) s' := by
  induction cols with
  | nil =>
    intro sched acc
    simp only [List.flatMap_nil, List.nil_append, parsedCols, List.map_nil, List.append_nil]
    obtain ⟨s1, h1⟩ := advance_blank sched (render A rs)
    cases rs with
    | nil =>
      obtain ⟨s2, h2⟩ := advance_nil s1
      have hadv : advance [] sched (0x0A :: render A []) = .eof [] [] s2 := by
        rw [h1]; exact h2
      exact ⟨s2, by rw [columnsLoop_eq, hadv]; rfl⟩
    | cons r rs' =>
      have hid := hrs r List.mem_cons_self
      obtain ⟨s2, h2⟩ := advance_line s1 r.id (tailData A (r :: rs')) (plain_id hid) (id_not_blank hid)
      have hadv : advance [] sched (0x0A :: render A (r :: rs')) =
          .found (r.id ++ [0x0A]) (tailData A (r :: rs')) s2 := by
        rw [h1, render_cons]; exact h2
      exact ⟨s2, by rw [columnsLoop_eq, hadv]; simp only [matrixColumn_id A conv hid]; rfl⟩
  | cons c cs ih =>
    intro sched acc
    obtain ⟨hc1, hc2, hc3⟩ := hcols c List.mem_cons_self
    obtain ⟨line, hl1, hl2, hl3⟩ := renderCol_line hA hB c hc1 (fun lex hl => (hc3 lex hl).1)
    have hdata : (c :: cs).flatMap (renderCol A) ++ 0x0A :: render A rs =
        line ++ 0x0A :: (cs.flatMap (renderCol A) ++ 0x0A :: render A rs) := by
      simp [hl1]
    obtain ⟨s2, h2⟩ := advance_line sched line (cs.flatMap (renderCol A) ++ 0x0A :: render A rs) hl2 hl3
    have hm := matrixColumn_render hA conv zero c hc1 hc2 hc3 []
    rw [List.append_nil, hl1] at hm
    obtain ⟨s3, h3⟩ := ih (fun c' h' => hcols c' (List.mem_cons_of_mem _ h')) s2
      (acc ++ [(c.1, values conv zero c.2)])
    refine ⟨s3, ?_⟩
    rw [hdata, columnsLoop_eq, h2]
    simp only [hm, h3]
    simp [parsedCols]

theorem buildMatrix_render (r : Src) (h : WF A conv zero freqOk r) :
    buildMatrix A zero (parsedCols conv zero r.cols) = .ok (expectMatrix A conv zero r) := by
  -- `buildSymLoop_spec` speaks of `Mat.get`, which reads `default` out of range: let that be `zero`
  letI : Inhabited α := ⟨zero⟩
  have hK := h.lt
  have hnd := h.nodup
  have hlen := h.len
  cases hcols : r.cols with
  | nil => exact absurd hcols h.ne
  | cons p rest =>
    rw [hcols] at hK hnd hlen
    simp only [List.headD_cons] at hlen
    unfold buildMatrix
    simp only [parsedCols, List.map_cons]
    have hmap : ((p :: rest).map fun c => (c.1, values conv zero c.2)).map (·.1) = (p :: rest).map (·.1) := by
      simp [List.map_map, Function.comp_def]
    obtain ⟨m', b1, b2, b3⟩ := buildSymLoop_spec ((p :: rest).map fun c => (c.1, values conv zero c.2))
      ((Mat.empty : Mat α A.K).resize (values conv zero p.2).length zero) []
      (List.forall_mem_map.mpr hK) (fun _ _ => by simp) (by rw [hmap]; exact hnd)
      (List.forall_mem_map.mpr fun c hc => by simp [values, hlen c hc])
    simp only [List.map_cons] at b1
    rw [b1]
    congr 1
    apply Mat.ext
    · rw [b2, Mat.rows_resize, expectMatrix, Mat.rows_ofFn, hcols, values, List.length_map]
      rfl
    · intro i j hi hj
      rw [b2] at hi
      rw [b3 i j hi]
      simp only [Mat.rows_resize, values, List.length_map] at hi
      simp only [expectMatrix, hcols, List.headD_cons, Mat.get_ofFn, hi, hj, and_self, if_true]
      have hd : (default : α) = zero := rfl
      -- looking a symbol up among the parsed lines is looking it up among the written ones
      rw [List.find?_map, show ((fun x : Nat × List α => x.1 == j) ∘ fun c : Nat × List Bytes =>
        (c.1, values conv zero c.2)) = fun c => c.1 == j from rfl]
      cases hf : List.find? (fun x => x.1 == j) (p :: rest) with
      | some col =>
        have hi' : i < col.2.length := hlen col (List.mem_of_find?_eq_some hf) ▸ hi
        simp only [Option.map_some, values, hd, List.getD_eq_getElem?_getD, List.getElem?_map,
          List.getElem?_eq_getElem hi', Option.map_some, Option.getD_some]
      | none => simp [hj, hd]

/-- the reader state in which the motifs `rs` are still to come (the id line of the first one
    pending in the buffer) -/
def St (rs : List Src) (s : State) : Prop :=
  s.buffer = tailBuf rs ∧ s.line = tailLine rs ∧ s.data = tailData A rs

theorem wf_colsOK (r : Src) (h : WF A conv zero freqOk r) : ColsOK A conv r.cols := by
  intro c hc
  refine ⟨h.lt c hc, ?_, h.lex c hc⟩
  intro e
  -- every line has the length of the first, which is positive
  have h0 : (r.cols.headD (0, [])).2.length = 0 := (h.len c hc).symm.trans (congrArg List.length e)
  exact Nat.ne_of_gt h.pos h0

theorem next_St (hA : A.LettersOK) (hB : LettersNotBlank A) (r : Src) (rs : List Src)
    (hr : WF A conv zero freqOk r) (hrs : ∀ r' ∈ rs, WF A conv zero freqOk r') (s : State)
    (hs : St A (r :: rs) s ∨ (s.buffer = [] ∧ s.line = false ∧ s.data = render A (r :: rs))) :
    (next A conv zero freqOk s).1 = .record (expect A conv zero r) ∧
    St A rs (next A conv zero freqOk s).2 := by
  have hid := hr.wfId
  have hfreq := hr.freq
  have hp : ∃ sc, (if s.line then Adv.found s.buffer s.data s.sched else advance s.buffer s.sched s.data)
      = .found (r.id ++ [0x0A]) (tailData A (r :: rs)) sc := by
    rcases hs with ⟨h1, h2, h3⟩ | ⟨h1, h2, h3⟩
    · exact ⟨s.sched, by rw [h1, h2, h3]; rfl⟩
    · obtain ⟨s2, hadv⟩ := advance_line s.sched r.id (tailData A (r :: rs)) (plain_id hid) (id_not_blank hid)
      exact ⟨s2, by rw [h1, h2, h3, render_cons]; exact hadv⟩
  obtain ⟨sc, hp⟩ := hp
  obtain ⟨sc', hcl⟩ := columnsLoop_render A conv zero hA hB rs (fun r' h' => (hrs r' h').wfId) r.cols
    (wf_colsOK A conv zero freqOk r hr) sc []
  simp only [List.nil_append] at hcl
  have hdata : tailData A (r :: rs) = r.cols.flatMap (renderCol A) ++ 0x0A :: render A rs := rfl
  rw [← hdata] at hcl
  unfold next
  simp only [hp, idLine_render hid, hcl, buildMatrix_render A conv zero freqOk r hr, hfreq, if_true]
  exact ⟨rfl, rfl, rfl, rfl⟩

theorem next_end (s : State) (h : St A [] s) : (next A conv zero freqOk s).1 = .done := by
  obtain ⟨h1, h2, h3⟩ := h
  obtain ⟨s2, hadv⟩ := advance_nil s.sched
  unfold next
  simp only [h2, tailLine, Bool.false_eq_true, if_false, h1, tailBuf, h3, tailData, hadv]

theorem roundTrip (hA : A.LettersOK) (hB : LettersNotBlank A) (sched : List Nat) (rs : List Src)
    (hwf : ∀ r ∈ rs, WF A conv zero freqOk r) :
    outcomes (next A conv zero freqOk) (rs.length + 1) (new sched (render A rs))
      = rs.map (fun r => Outcome.record (expect A conv zero r)) ++ [Outcome.done] := by
  -- the id line of the next motif is pending, or (before the first call) nothing has been read
  refine outcomes_of_sim _ _ (fun rs s => (∀ r ∈ rs, WF A conv zero freqOk r) ∧
    (St A rs s ∨ (s.buffer = [] ∧ s.line = false ∧ s.data = render A rs))) ?_ ?_ rs _
    ⟨hwf, Or.inr ⟨rfl, rfl, rfl⟩⟩
  · intro r rs s ⟨hwf, hs⟩
    obtain ⟨h1, h2⟩ := next_St A conv zero freqOk hA hB r rs (hwf r List.mem_cons_self)
      (fun r' h' => hwf r' (List.mem_cons_of_mem _ h')) s hs
    exact ⟨h1, fun r' h' => hwf r' (List.mem_cons_of_mem _ h'), Or.inl h2⟩
  · intro s ⟨_, hs⟩
    -- with no motif left the two alternatives are the same proposition (`render A [] = []`,
    -- `tailBuf [] = []`, `tailLine [] = false`), by unfolding
    exact next_end A conv zero freqOk s (hs.elim id id)

end Uniprobe

end LMV
