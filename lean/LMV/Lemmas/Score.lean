/-
  LMV.Lemmas.Score — helper lemmas for the scoring models: panicking loops, two facts about the
  intrinsics, materialised registers, stores into a result row over ANY carrier, and the closed
  form of the generic scoring loops.
-/
import LMV.Model.Score
import LMV.Lemmas.Patch

namespace LMV
namespace Score

open Mat (Patch)

variable {α : Type} {C K : Nat}

/-! ### loops that may panic -/

theorem foldE_ok {ι β ε : Type} (l : List ι) (f : β → ι → Except ε β) (g : β → ι → β)
    (h : ∀ b x, x ∈ l → f b x = .ok (g b x)) (b : β) : foldE l f b = .ok (l.foldl g b) := by
  induction l generalizing b with
  | nil => rfl
  | cons x xs ih =>
    rw [foldE, h b x List.mem_cons_self]
    exact ih (fun b y hy => h b y (List.mem_cons_of_mem _ hy)) (g b x)

/-- a loop with an iteration that panics whatever the state panics (at that iteration or before) -/
theorem foldE_error_of_mem {ι β ε : Type} (l : List ι) (f : β → ι → Except ε β) (x : ι) (hx : x ∈ l)
    (h : ∀ b, ∃ e, f b x = .error e) (b : β) : ∃ e, foldE l f b = .error e := by
  fun_induction foldE l f b with
  | case1 => cases hx
  | case2 _ _ _ _ e _ => exact ⟨e, rfl⟩  -- the first iteration panics
  | case3 _ _ _ b _ hb ih =>
    -- the first iteration returns: it is not `x`, which lies further on
    rcases List.mem_cons.mp hx with rfl | hmem
    · obtain ⟨e, he⟩ := h b
      rw [he] at hb; cases hb
    · exact ih hmem h

/-! ### facts about the intrinsics -/

theorem sext32_small (v : Nat) (h : v < 2147483648) : Isa.sext32 v = Int.ofNat v := by
  unfold Isa.sext32
  have : v % 4294967296 = v := Nat.mod_eq_of_lt (Nat.lt_trans h (by decide))
  rw [this, if_pos h]

open Isa in
theorem dwordLE_single (b : Nat → Nat) (l v : Nat) (h0 : b (4 * l) = v) (h1 : b (4 * l + 1) = 0)
    (h2 : b (4 * l + 2) = 0) (h3 : b (4 * l + 3) = 0) : dwordLE b l = v := by
  rw [dwordLE, h0, h1, h2, h3]; rfl

/-! ### materialised registers -/

theorem tab_getD {β : Type} (n : Nat) (f : Nat → β) (i : Nat) (d : β) (h : i < n) :
    (tab n f).getD i d = f i := by
  simp [tab, Array.getD, h]

theorem rd_tab {β : Type} (d : β) (nq nl : Nat) (f : Nat → Nat → β) (q l : Nat) (hq : q < nq)
    (hl : l < nl) : rd d (tab nq fun q => tab nl fun l => f q l) q l = f q l := by
  unfold rd
  rw [tab_getD _ _ _ _ hq, tab_getD _ _ _ _ hl]

/-! ### stores into a result row -/

/-- the last of a list of `w`-wide stores `(offset, register)` that covers column `c`:
    `(register, lane)` -/
def lastStore (w : Nat) (stores : List (Nat × Nat)) (c : Nat) : Option (Nat × Nat) :=
  stores.foldl (fun acc op => if op.1 ≤ c ∧ c < op.1 + w then some (op.2, c - op.1) else acc) none

theorem lastStore_snoc (w : Nat) (ops : List (Nat × Nat)) (op : Nat × Nat) (c : Nat) :
    lastStore w (ops ++ [op]) c =
      if op.1 ≤ c ∧ c < op.1 + w then some (op.2, c - op.1) else lastStore w ops c := by
  unfold lastStore; rw [List.foldl_append]; rfl

theorem lastStore_none (w : Nat) (stores : List (Nat × Nat)) (c : Nat)
    (h : ∀ op ∈ stores, ¬ (op.1 ≤ c ∧ c < op.1 + w)) : lastStore w stores c = none := by
  induction stores using list_snoc_induction with
  | nil => rfl
  | snoc l op ih =>
    rw [lastStore_snoc, if_neg (h op (by simp)), ih (fun o ho => h o (by simp [ho]))]

theorem store_patch (k o w : Nat) (g : Nat → α) (d : Mat α C) :
    Patch d ((List.range w).foldl (fun d l => d.set k (o + l) (g l)) d)
      (fun r c => r = k ∧ o ≤ c ∧ c < o + w) (fun _ c => g (c - o)) :=
  Patch.range _ (fun l r c => r = k ∧ c = o + l) d w
    (fun l _ d' _ => Patch.set d' _ _ _ (by rw [Nat.add_sub_cancel_left]))
    fun r c _ _ => ⟨fun h => ⟨c - o, Nat.sub_lt_left_of_lt_add h.2.1 h.2.2, h.1,
        (Nat.add_sub_cancel' h.2.1).symm⟩,
      by rintro ⟨l, hl, h1, rfl⟩; exact ⟨h1, Nat.le_add_right o l, Nat.add_lt_add_left hl o⟩⟩

/-- a `w`-wide store at offset `o` from `base` covers column `c`: as `lastStore` tests it, and as
    the cells it writes -/
theorem covers_iff {base o w c : Nat} (hb : base ≤ c) :
    o ≤ c - base ∧ c - base < o + w ↔ base + o ≤ c ∧ c < base + o + w :=
  and_congr (Nat.le_sub_iff_add_le' hb) ((Nat.sub_lt_iff_lt_add' hb).trans (by rw [Nat.add_assoc]))

/-- stores in program order: the last one that covers a column wins -/
theorem stores_getD (w k base : Nat) (stores : List (Nat × Nat)) (val : Nat → Nat → α) (d : Mat α C)
    (r c : Nat) (e : α) (hr : r < d.rows) (hc : c < C) :
    (stores.foldl (fun d op =>
      (List.range w).foldl (fun d l => d.set k (base + op.1 + l) (val op.2 l)) d) d).getD r c e =
      if r = k ∧ base ≤ c
      then (lastStore w stores (c - base)).elim (d.getD r c e) (fun pl => val pl.1 pl.2)
      else d.getD r c e := by
  induction stores using list_snoc_induction with
  | nil => exact (ite_self (d.getD r c e)).symm
  | snoc ops op ih =>
    rw [List.foldl_append, lastStore_snoc, List.foldl_cons, List.foldl_nil]
    have hrows := Mat.rows_foldl ops _ (fun d op => Mat.rows_foldl (List.range w)
      (fun d l => d.set k (base + op.1 + l) (val op.2 l)) (fun d _ => Mat.rows_set ..) d) d
    generalize ops.foldl _ d = d' at ih hrows ⊢
    have hp := store_patch k (base + op.1) w (val op.2) d'
    by_cases h2 : r = k ∧ base ≤ c
    · rw [if_pos h2]
      by_cases h : op.1 ≤ c - base ∧ c - base < op.1 + w
      · rw [if_pos h, hp.hit r c (hrows ▸ hr) hc ⟨h2.1, (covers_iff h2.2).mp h⟩, Nat.sub_add_eq]
        rfl
      · rw [if_neg h, hp.miss r c fun h1 => h ((covers_iff h2.2).mpr h1.2), ih, if_pos h2]
    · rw [if_neg h2, hp.miss r c fun h1 => h2 ⟨h1.1, Nat.le_trans (Nat.le_add_right _ _) h1.2.1⟩, ih,
        if_neg h2]

/-- the stores of one kernel iteration patch row `k` on the columns `P`.  `base` and `P` are for the
    SSE2 kernel, whose pass `blk` stores from column `base = 16·blk` into the 16 columns `P` of its
    block (AVX2: `base = 0`, `P` everything).  `hin`: every column of `P` is covered, and the LAST
    store covering it (an identity-table fact) brings the wanted value; `hout`: no store reaches a
    column outside `P` (from `base` on: before it none is asked about). -/
theorem stores_patch (w k base : Nat) (stores : List (Nat × Nat)) (val : Nat → Nat → α)
    (P : Nat → Prop) (v : Nat → α) (d : Mat α C)
    (hin : ∀ c, c < C → P c →
      ∃ p l, base ≤ c ∧ lastStore w stores (c - base) = some (p, l) ∧ val p l = v c)
    (hout : ∀ c, c < C → ¬ P c → base ≤ c → lastStore w stores (c - base) = none) :
    Patch d (stores.foldl (fun d op =>
        (List.range w).foldl (fun d l => d.set k (base + op.1 + l) (val op.2 l)) d) d)
      (fun r c => r = k ∧ P c) (fun _ c => v c) := by
  refine Patch.of_inbounds
    (Mat.rows_foldl _ _ (fun d _ => Mat.rows_foldl _ _ (fun d _ => Mat.rows_set ..) d) d)
    (fun r c hr hc h e => ?_) (fun r c hr hc h e => ?_)
  · obtain ⟨p, l, hb, hl, hv⟩ := hin c hc h.2
    rw [stores_getD w k base stores val d r c e hr hc, if_pos ⟨h.1, hb⟩, hl]
    exact hv
  · rw [stores_getD w k base stores val d r c e hr hc]
    by_cases h' : r = k ∧ base ≤ c
    · rw [if_pos h', hout c hc (fun hP => h ⟨h'.1, hP⟩) h'.2]; rfl
    · rw [if_neg h']

/-! ### the generic loops: closed form -/

/-- the score of one window given the symbol at each motif position, in scalar order:
    `((0 + m[0][sym 0]) + m[1][sym 1]) + …` -/
def cellSum (zero : α) (add : α → α → α) (pssm : Mat α K) (sym : Nat → Nat) : α :=
  (List.range pssm.rows).foldl (fun v j => add v (pssm.getD j (sym j) zero)) zero

theorem cellSum_congr (zero : α) (add : α → α → α) (pssm : Mat α K) (f g : Nat → Nat)
    (h : ∀ j, j < pssm.rows → f j = g j) : cellSum zero add pssm f = cellSum zero add pssm g := by
  unfold cellSum
  apply foldl_ext_mem
  intro v j hj
  rw [h j (List.mem_range.mp hj)]

theorem cellGeneric_ok (zero : α) (add : α → α → α) (pssm : Mat α K) (seq : Mat Nat C)
    (seqRow col : Nat)
    (h : ∀ j, j < pssm.rows → seqRow + j < seq.rows ∧ seq.getD (seqRow + j) col 0 < K) :
    cellGeneric zero add pssm seq seqRow col =
      .ok (cellSum zero add pssm fun j => seq.getD (seqRow + j) col 0) := by
  unfold cellGeneric cellSum
  apply foldE_ok
  intro b j hj
  have hj := h j (List.mem_range.mp hj)
  simp only [hj.1, hj.2, if_true]

/-- what cell `(r, c)` of a scan of the rows `a ..` holds: the score of the window that starts in
    row `a + r` of column `c` and runs down the rows -/
def scanCell (zero : α) (add : α → α → α) (pssm : Mat α K) (seq : Mat Nat C) (a r c : Nat) : α :=
  cellSum zero add pssm fun j => seq.getD (a + r + j) c 0

/-- the matrix the generic loops produce -/
def scanRows (zero : α) (add : α → α → α) (pssm : Mat α K) (seq : Mat Nat C) (a n : Nat)
    (d : Mat α C) : Mat α C :=
  (List.range n).foldl (fun d k =>
    (List.range C).foldl (fun d col => d.set k col (scanCell zero add pssm seq a k col)) d) d

/-- the rows a scan of the range `a .. b` reads — row `a + k` of the range and its look-ahead rows
    `j < M` — exist when the `M - 1` look-ahead rows of the end of the range do -/
theorem scanRow_lt {a b M rows k j : Nat} (hk : k < b - a) (hj : j < M)
    (hrows : b + (M - 1) ≤ rows) : a + k + j < rows :=
  Nat.lt_of_lt_of_le
    (Nat.add_lt_add_of_lt_of_le (Nat.add_lt_of_lt_sub' hk) (Nat.le_sub_one_of_lt hj)) hrows

/-- … and when they do not, the last row `a + (b - a - 1)` of the range lacks its last one -/
theorem scanRow_ge {a b M rows : Nat} (hab : a < b) (hrows : rows < b + (M - 1)) :
    rows ≤ a + (b - a - 1) + (M - 1) := by
  apply Nat.le_of_lt_succ
  rwa [Nat.succ_eq_add_one, Nat.add_right_comm, Nat.add_assoc a,
    Nat.sub_add_cancel (Nat.sub_pos_of_lt hab), Nat.add_sub_cancel' (Nat.le_of_lt hab)]

theorem rowsGeneric_ok (zero : α) (add : α → α → α) (pssm : Mat α K) (seq : Mat Nat C) (a n : Nat)
    (d : Mat α C)
    (h : ∀ k j col, k < n → j < pssm.rows → col < C →
      a + k + j < seq.rows ∧ seq.getD (a + k + j) col 0 < K) :
    rowsGeneric zero add pssm seq a n d = .ok (scanRows zero add pssm seq a n d) := by
  unfold rowsGeneric scanRows
  apply foldE_ok
  intro d k hk
  apply foldE_ok
  intro d col hcol
  rw [cellGeneric_ok zero add pssm seq (a + k) col fun j hj =>
    h k j col (List.mem_range.mp hk) hj (List.mem_range.mp hcol)]
  rfl

theorem scanRows_patch (zero : α) (add : α → α → α) (pssm : Mat α K) (seq : Mat Nat C) (a n : Nat)
    (d : Mat α C) :
    Patch d (scanRows zero add pssm seq a n d) (fun r _ => r < n) (scanCell zero add pssm seq a) :=
  Patch.rowLoop _ d n fun k _ d' => Patch.row d' k _ fun _ _ => rfl

/-- the generic loops panic as soon as one row of the range lacks a look-ahead row -/
theorem rowsGeneric_error (hC : 0 < C) (zero : α) (add : α → α → α) (pssm : Mat α K) (seq : Mat Nat C)
    (a n : Nat) (d : Mat α C) (k j : Nat) (hk : k < n) (hj : j < pssm.rows)
    (hrow : seq.rows ≤ a + k + j) : ∃ e, rowsGeneric zero add pssm seq a n d = .error e := by
  unfold rowsGeneric
  apply foldE_error_of_mem _ _ k (List.mem_range.mpr hk)
  intro d
  apply foldE_error_of_mem _ _ 0 (List.mem_range.mpr hC)
  intro d'
  have hcell : ∃ e, cellGeneric zero add pssm seq (a + k) 0 = .error e := by
    unfold cellGeneric
    apply foldE_error_of_mem _ _ j (List.mem_range.mpr hj)
    intro sc
    exact ⟨"row-oob", by rw [if_neg (Nat.not_lt_of_le hrow)]⟩
  obtain ⟨e, he⟩ := hcell
  exact ⟨e, by rw [he]⟩

/-! ### the two branches of the trait-default `score_rows_into` -/

theorem scoreRowsGeneric_exit (zero : α) (add : α → α → α) (pssm : Mat α K) (seq : Striped C)
    (a b : Nat) (sc : Scores α C) (h : seq.length < pssm.rows ∨ b ≤ a) :
    scoreRowsGeneric zero add pssm seq a b sc = .ok (resize zero sc 0 0) := by
  unfold scoreRowsGeneric; rw [if_pos h]

theorem scoreRowsGeneric_scan (zero : α) (add : α → α → α) (pssm : Mat α K) (seq : Striped C)
    (a b : Nat) (sc : Scores α C) (h : ¬ (seq.length < pssm.rows ∨ b ≤ a)) :
    scoreRowsGeneric zero add pssm seq a b sc =
      (rowsGeneric zero add pssm seq.data a (b - a) (sc.data.resize (b - a) zero)).map
        fun d => ⟨d, seq.length + 1 - pssm.rows⟩ := by
  unfold scoreRowsGeneric; rw [if_neg h]
  simp only [resize]
  cases rowsGeneric zero add pssm seq.data a (b - a) (sc.data.resize (b - a) zero) <;> rfl

end Score
end LMV
