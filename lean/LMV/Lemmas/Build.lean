/-
  LMV.Lemmas.Build — what the four readers share beyond nom (`Model/ReaderCommon.lean`): `symbol`
  on an ASCII byte and on a letter of the alphabet, `built`, and why the `build_matrix` loops never
  hit an index panic: symbols come out of `from_ascii` (hence `< K`, a fact of the regenerated
  alphabet tables) and the column length is checked against the row count before the cells are
  written.  Core Lean only.
-/
import LMV.Model.ReaderCommon
import LMV.Lemmas.Nom
import LMV.Lemmas.AbcTables

namespace LMV

namespace Io

open Nom

variable {α : Type} {K : Nat}

theorem fillColumn_rows {m m' : Mat α K} {s i : Nat} {xs : List α}
    (h : fillColumn m s i xs = some m') : m'.rows = m.rows := by
  fun_induction fillColumn m s i xs with
  | case1 => cases h; rfl
  | case2 m i x xs _ ih => exact (ih h).trans (Mat.rows_set ..)
  | case3 => cases h

theorem fillColumn_some {s : Nat} (hs : s < K) (xs : List α) (m : Mat α K) (i : Nat)
    (h : i + xs.length ≤ m.rows) : ∃ m', fillColumn m s i xs = some m' := by
  fun_induction fillColumn m s i xs with
  | case1 m => exact ⟨m, rfl⟩
  | case2 m i x xs _ ih => exact ih (by rw [Mat.rows_set, Nat.add_right_comm]; exact h)
  | case3 m i x xs hc =>
    have hi : i < m.rows := Nat.lt_of_lt_of_le (Nat.lt_add_of_pos_right (Nat.succ_pos _)) h
    exact absurd ⟨hi, hs⟩ hc

/-- a whole column, as the `build_matrix` loops write it once its length is checked -/
theorem fillColumn_zero {s : Nat} (hs : s < K) {xs : List α} {m : Mat α K} (h : xs.length = m.rows) :
    ∃ m', fillColumn m s 0 xs = some m' ∧ m'.rows = m.rows :=
  (fillColumn_some hs xs m 0 (Nat.le_of_eq ((Nat.zero_add _).trans h))).imp
    fun _ h' => ⟨h', fillColumn_rows h'⟩

theorem symbol_ascii (A : Alphabet) (b : UInt8) (hb : b < 0x80) (r : Bytes) :
    symbol A (b :: r) = match A.fromAscii b with
      | some a => .ok r a
      | none => .err := by
  have hc : charLen b = 1 := by simp [charLen, hb]
  simp only [symbol, mapRes, anychar, hc, Nat.sub_self, List.take_zero, List.drop_zero, hb, if_true]
  cases A.fromAscii b <;> rfl

theorem symbol_letter {A : Alphabet} (hA : A.LettersOK) (a : Nat) (ha : a < A.K) (rest : Bytes) :
    symbol A (A.letters.getD a 0 :: rest) = .ok rest a := by
  rw [symbol_ascii A _ (hA.ascii ha), hA.fromAscii ha]

theorem symbol_mark {A : Alphabet} (hA : A.LettersOK) (rest : Bytes) :
    symbol A (0x3E :: rest) = .err := by
  rw [symbol_ascii A _ (by decide), hA.gt_none]

theorem symbol_nil (A : Alphabet) : symbol A [] = .err := by
  rfl

theorem symbol_lt {A : Alphabet} (hA : A.IndexOK) {i r : Bytes} {a : Nat}
    (h : symbol A i = .ok r a) : a < A.K := by
  unfold symbol at h
  revert h
  fun_cases mapRes anychar _ i
  case case1 hw =>
    intro h; cases h
    split at hw
    · split at hw
      · exact Alphabet.fromAscii_lt hA hw
      · cases hw
    · cases hw
  all_goals exact nofun

/-- the symbol that starts a matrix line of jaspar16 / uniprobe is a column index -/
theorem symbolLine_lt {A : Alphabet} (hA : A.IndexOK) {β γ δ : Type} {s : Parser β} {g : Parser γ}
    {e : Parser δ} {i r : Bytes} {v : Nat × γ}
    (h : terminated (separatedPair (symbol A) s g) e i = .ok r v) : v.1 < A.K := by
  obtain ⟨r1, _, h1, _⟩ := terminated_ok h
  obtain ⟨r2, h2, _⟩ := pair_ok h1
  exact symbol_lt hA h2

theorem eats_symbol (A : Alphabet) : Eats 1 (symbol A) := eats_anychar.mapRes _

theorem strict_symbol (A : Alphabet) : Strict (symbol A) := (eats_symbol A).strict

theorem buildSymLoop_noPanic (l : List (Nat × List α)) (hl : ∀ p ∈ l, p.1 < K)
    (m : Mat α K) (done : List Nat) (site : String) : buildSymLoop m done l ≠ .panic site := by
  fun_induction buildSymLoop m done l
  -- no panic of `done[s]`: `s < K`
  case case2 hK => exact absurd (hl _ List.mem_cons_self) (Nat.not_lt.mpr hK)
  case case5 ih => exact ih fun p hp => hl p (List.mem_cons_of_mem _ hp)
  -- no panic of `matrix[i][s]`: `s < K` (`hK`) and the column is as long as the matrix (`hlen`)
  case case6 hK _ hlen hf =>
    obtain ⟨m', h1, _⟩ := fillColumn_zero (Nat.not_le.mp hK) (Decidable.of_not_not hlen)
    rw [h1] at hf
    cases hf
  all_goals exact nofun

/-! ### `built` -/

theorem built_ok {β : Type} {f : Parser α} {g : α → Built β K} {i r : Bytes}
    {e : Except String (Mat β K)} (h : built f g i = .ok r e) :
    ∃ v, f i = .ok r v ∧ ((∃ m, g v = .ok m ∧ e = .ok m) ∨ ∃ site, g v = .panic site) := by
  revert h
  fun_cases built f g i
  case case1 v hf m hg => intro h; cases h; exact ⟨v, hf, .inl ⟨m, hg, rfl⟩⟩
  case case3 v hf site hg => intro h; cases h; exact ⟨v, hf, .inr ⟨site, hg⟩⟩
  all_goals exact nofun

theorem _root_.LMV.Nom.Eats.built {β : Type} {k : Nat} {f : Parser α} (hf : Eats k f) (g : α → Built β K) :
    Eats k (built f g) := fun i =>
  (hf i).bind (b := 0) fun r v _ => by split <;> first | exact Nat.le_refl _ | trivial

theorem strict_built {β : Type} {f : Parser α} (hf : Strict f) (g : α → Built β K) :
    Strict (built f g) := fun i r _ h => by
  obtain ⟨v, hv, _⟩ := built_ok h
  exact hf i r v hv

/-- `Except.error` in the value of a record parser is how an index panic inside `build_matrix` is
    modelled -/
def NoIndexPanic {ρ : Type} (parse : Parser (Except String ρ)) : Prop :=
  ∀ i r e, parse i = .ok r e → ∃ v, e = .ok v

theorem built_noPanic {β : Type} {f : Parser α} {g : α → Built β K}
    (hg : ∀ i r v, f i = .ok r v → ∀ site, g v ≠ .panic site)
    {i r : Bytes} {e : Except String (Mat β K)} (h : built f g i = .ok r e) : ∃ m, e = .ok m := by
  obtain ⟨v, hv, ⟨m, _, hm⟩ | ⟨site, hs⟩⟩ := built_ok h
  · exact ⟨m, hm⟩
  · exact absurd hs (hg i r v hv site)

/-! ### what C15 asks of one call -/

/-- `x` is what a call of `next` in state `s` returned: not a panic; the state it leaves satisfies the
    reader's invariant again; if it is a record, the measure went down (`C15.consumer_ok`) -/
structure CallOK {σ ρ : Type} (Inv : σ → Prop) (μ : σ → Nat) (s : σ) (x : Outcome ρ × σ) : Prop where
  noPanic : ∀ site, x.1 ≠ .panic site
  inv : Inv x.2
  lower : ∀ r, x.1 = .record r → μ x.2 < μ s

/-- an exit with an error or at the end of the input -/
theorem CallOK.quiet {σ ρ : Type} {Inv : σ → Prop} {μ : σ → Nat} {s : σ} {x : Outcome ρ × σ}
    (hp : x.1.isPanic = false) (hr : x.1.isRecord = false) (h : Inv x.2) : CallOK Inv μ s x :=
  ⟨fun _ e => (by rw [e] at hp; cases hp), h, fun _ e => (by rw [e] at hr; cases hr)⟩

end Io
end LMV
