/-
  LMV.Lemmas.Utf8 — UTF-8 validity of concatenations, and `Plain d l`: text that is valid on its own
  and free of the byte `d`, which is what the renderers produce between two delimiters; at the end,
  what `read_line` returns on a stream that starts with a plain line.  Core Lean only.
-/
import LMV.Lemmas.Stream

namespace LMV
namespace Io

/-- the defining equation of `validUtf8` on `b0 :: rest`, written out: `unfold` / `simp [validUtf8]`
    go through the compiled nested match and give a goal nothing rewrites.  The right side is the
    body of the definition in `Model/Stream.lean` and has to follow it. -/
theorem validUtf8_cons (b0 : UInt8) (rest : Bytes) :
    validUtf8 (b0 :: rest) =
      if b0 < 0x80 then validUtf8 rest
      else if 0xC2 ≤ b0 && b0 ≤ 0xDF then
        match rest with
        | b1 :: rest => isCont b1 && validUtf8 rest
        | _ => false
      else if 0xE0 ≤ b0 && b0 ≤ 0xEF then
        match rest with
        | b1 :: b2 :: rest =>
          (if b0 = 0xE0 then 0xA0 ≤ b1 && b1 ≤ 0xBF
           else if b0 = 0xED then 0x80 ≤ b1 && b1 ≤ 0x9F
           else isCont b1) && isCont b2 && validUtf8 rest
        | _ => false
      else if 0xF0 ≤ b0 && b0 ≤ 0xF4 then
        match rest with
        | b1 :: b2 :: b3 :: rest =>
          (if b0 = 0xF0 then 0x90 ≤ b1 && b1 ≤ 0xBF
           else if b0 = 0xF4 then 0x80 ≤ b1 && b1 ≤ 0x8F
           else isCont b1) && isCont b2 && isCont b3 && validUtf8 rest
        | _ => false
      else false := by
  conv => lhs; rw [validUtf8.eq_def]
  rfl

theorem validUtf8_append (a b : Bytes) (ha : validUtf8 a = true) :
    validUtf8 (a ++ b) = validUtf8 b := by
  -- along the recursion of `validUtf8 a`: in every arm `ha` gives the tests on the continuation
  -- bytes, which `a ++ b` repeats
  fun_induction validUtf8 a with
  | case1 => rfl
  | case2 b0 rest h0 ih => rw [List.cons_append, validUtf8_cons, if_pos h0]; exact ih ha
  | case3 b0 h0 h1 b1 rest ih =>
    simp only [Bool.and_eq_true] at ha
    rw [List.cons_append, validUtf8_cons, if_neg h0, if_pos h1]
    simp only [List.cons_append, ha.1, ih ha.2, Bool.true_and]
  | case5 b0 h0 h1 h2 b1 b2 rest ih =>
    simp only [Bool.and_eq_true] at ha
    rw [List.cons_append, validUtf8_cons, if_neg h0, if_neg h1, if_pos h2]
    simp only [List.cons_append, ha.1.1, ha.1.2, ih ha.2, Bool.true_and]
  | case7 b0 h0 h1 h2 h3 b1 b2 b3 rest ih =>
    simp only [Bool.and_eq_true] at ha
    rw [List.cons_append, validUtf8_cons, if_neg h0, if_neg h1, if_neg h2, if_pos h3]
    simp only [List.cons_append, ha.1.1.1, ha.1.1.2, ha.1.2, ih ha.2, Bool.true_and]
  | case4 | case6 | case8 | case9 => cases ha

theorem validUtf8_ascii (a : Bytes) (h : ∀ b ∈ a, b < 0x80) : validUtf8 a = true := by
  induction a with
  | nil => rfl
  | cons b bs ih =>
    rw [validUtf8_cons, if_pos (h b List.mem_cons_self)]
    exact ih (fun b' hb' => h b' (List.mem_cons_of_mem _ hb'))

/-- none of the four lead-byte ranges of `validUtf8` contains `0x80..0xBF` -/
theorem validUtf8_head (b : UInt8) (r : Bytes) (h : validUtf8 (b :: r) = true) : isCont b = false := by
  cases hc : isCont b with
  | false => rfl
  | true =>
    simp only [isCont, Bool.and_eq_true, decide_eq_true_eq] at hc
    have no : ∀ lo hi : UInt8, ¬ lo ≤ 0xBF → ¬ ((lo ≤ b && b ≤ hi) = true) := fun lo hi hlo hb => by
      simp only [Bool.and_eq_true, decide_eq_true_eq] at hb
      exact hlo (UInt8.le_trans hb.1 hc.2)
    rw [validUtf8_cons, if_neg (UInt8.not_lt.mpr hc.1), if_neg (no _ _ (by decide)),
      if_neg (no _ _ (by decide)), if_neg (no _ _ (by decide))] at h
    cases h

def Plain (d : UInt8) (l : Bytes) : Prop := d ∉ l ∧ validUtf8 l = true

namespace Plain

variable {d : UInt8} {a b : Bytes}

theorem nil : Plain d [] := ⟨List.not_mem_nil, rfl⟩

theorem append (ha : Plain d a) (hb : Plain d b) : Plain d (a ++ b) :=
  ⟨fun h => (List.mem_append.mp h).elim ha.1 hb.1, by rw [validUtf8_append _ _ ha.2]; exact hb.2⟩

theorem cons {x : UInt8} (hx : x < 0x80) (hd : x ≠ d) (ha : Plain d a) : Plain d (x :: a) :=
  ⟨fun h => (List.mem_cons.mp h).elim (fun e => hd e.symm) ha.1,
    by rw [validUtf8_cons, if_pos hx]; exact ha.2⟩

theorem ascii (h : ∀ x ∈ a, x < 0x80 ∧ x ≠ d) : Plain d a :=
  ⟨fun hm => (h d hm).2 rfl, validUtf8_ascii a fun x hx => (h x hx).1⟩

theorem flatMap {β : Type} {g : β → Bytes} {xs : List β} (h : ∀ x ∈ xs, Plain d (g x)) :
    Plain d (xs.flatMap g) := by
  induction xs with
  | nil => exact nil
  | cons x xs ih => exact (h x List.mem_cons_self).append (ih fun y hy => h y (List.mem_cons_of_mem _ hy))

end Plain

theorem readLine_nil (sched : List Nat) : (readLine sched []).1 = some [] ∧ (readLine sched []).2.1 = [] := by
  obtain ⟨h1, h2⟩ := readLine_eq sched []
  rw [h1, h2]
  exact ⟨rfl, rfl⟩

theorem readLine_line (sched : List Nat) (line more : Bytes) (hl : Plain 0x0A line) :
    (readLine sched (line ++ 0x0A :: more)).1 = some (line ++ [0x0A]) ∧
    (readLine sched (line ++ 0x0A :: more)).2.1 = more := by
  obtain ⟨h1, h2⟩ := readLine_eq sched (line ++ 0x0A :: more)
  obtain ⟨ht, ha⟩ := split_append_cons 0x0A hl.1 more
  rw [h1, h2, ht, ha, validUtf8_append _ _ hl.2]
  exact ⟨rfl, rfl⟩

end Io
end LMV
