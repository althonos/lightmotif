/-
  LMV.Lemmas.SamplerInit — what the two constructors establish: `SamplerData::new` caches the true
  symbol counts (`mkData_wf`: `count_symbols` on the striped walk counts every symbol exactly once),
  `Sampler::_new` builds a state satisfying the invariant (`init_spec`).
-/
import LMV.Lemmas.SamplerInv
import LMV.Lemmas.Outcome

namespace LMV
namespace Sampler

/-! ### `SamplerData::new` -/

theorem countSymbols_ok (K C : Nat) (seq : Array Nat) (hC : 0 < C)
    (hsym : ∀ k, k < seq.size → seq.getD k 0 < K) :
    ∃ cnt, countSymbols K C seq = .ok cnt ∧ cnt.size = K ∧
      ∀ c, c < K → cnt.getD c 0 = symCount seq c := by
  unfold countSymbols
  dsimp only
  generalize hrows : (seq.size + (C - 1)) / C = rows
  -- the striped matrix covers the sequence
  have hcover : seq.size ≤ C * rows := by
    rw [← hrows, Nat.mul_comm]; exact le_ceilDiv_mul hC _
  -- what visiting position `k` adds to the counter of `c`
  let g : Nat → Nat → Nat := fun c k => if k < seq.size then (if seq.getD k 0 = c then 1 else 0) else 0
  refine (forUp_add (fun t : Array Nat => t.size = K) (fun t c => t.getD c 0)
      (fun i c => sumTo C (fun j => g c (j * rows + i))) rows _ _ (by simp) fun i t _ ht => ?_).imp
    fun cnt ⟨h1, h2, h3⟩ => ⟨h1, h2, fun c hc => ?_⟩
  · apply forUp_add (fun t : Array Nat => t.size = K) (fun t c => t.getD c 0)
      (fun j c => g c (j * rows + i)) _ _ _ ht
    intro j u _ hu
    by_cases hlt : j * rows + i < seq.size
    · simpa only [g, if_pos hlt] using addAt_ok u _ 1 hu (hsym _ hlt)
    · exact ⟨u, if_neg hlt, hu, fun c => by simp only [g, if_neg hlt, Nat.add_zero]⟩
  · -- swap the loops; column-major order enumerates `0..C·rows`; nothing is counted past `seq.size`
    rw [h3, sumTo_swap, sumTo_grid, sumTo_extend (g c) hcover (fun k hk => if_neg (Nat.not_lt.mpr hk))]
    rw [show (Array.replicate K 0).getD c 0 = 0 by simp [hc], Nat.zero_add]
    exact sumTo_congr fun k hk => if_pos hk

theorem countAll_ok (K C : Nat) (hC : 0 < C) : ∀ (l : List (Array Nat)),
    (∀ q, q ∈ l → ∀ k, k < q.size → q.getD k 0 < K) →
    ∃ cs, countAll K C l = .ok cs ∧ cs.length = l.length ∧
      ∀ i, i < l.length → ((cs[i]?).getD #[]).size = K ∧
        ∀ c, c < K → ((cs[i]?).getD #[]).getD c 0 = symCount ((l[i]?).getD #[]) c := by
  intro l
  induction l with
  | nil => intro _; exact ⟨[], rfl, rfl, fun i hi => by cases hi⟩
  | cons q l ih =>
    intro h
    obtain ⟨cnt, h1, h2, h3⟩ := countSymbols_ok K C q hC (h q (List.mem_cons_self ..))
    obtain ⟨cs, h4, h5, h6⟩ := ih (fun q' hq' => h q' (List.mem_cons_of_mem _ hq'))
    refine ⟨cnt :: cs, ?_, by simp [h5], ?_⟩
    · unfold countAll; rw [h1]; dsimp only; rw [h4]
    · intro i hi
      cases i with
      | zero => exact ⟨h2, h3⟩
      | succ i => exact h6 i (Nat.lt_of_succ_lt_succ hi)

/-- `SamplerData::new` on sequences over the alphabet (`C > 0` columns) succeeds and caches the true
    symbol counts: the data it returns is well formed. -/
theorem mkData_wf (K C : Nat) (seqs : Array (Array Nat)) (wraps : Array Nat) (hC : 0 < C)
    (hsym : ∀ i, i < seqs.size → ∀ k, k < (seqs.getD i #[]).size → (seqs.getD i #[]).getD k 0 < K) :
    ∃ D, mkData K C seqs wraps = .ok D ∧ D.seqs = seqs ∧ D.wraps = wraps ∧ D.WF K := by
  have hl : ∀ q, q ∈ seqs.toList → ∀ k, k < q.size → q.getD k 0 < K := by
    intro q hq k hk
    obtain ⟨i, hi, rfl⟩ := Array.mem_iff_getElem.mp (Array.mem_toList_iff.mp hq)
    have e : seqs.getD i #[] = seqs[i] := dif_pos hi
    rw [← e] at hk ⊢
    exact hsym i hi k hk
  obtain ⟨cs, h1, h2, h3⟩ := countAll_ok K C hC seqs.toList hl
  refine ⟨⟨seqs, cs.toArray, wraps⟩, by unfold mkData; rw [h1], rfl, rfl, ?_⟩
  -- `Data.cnt` and `Data.seq` read the arrays with `getD`; `countAll_ok` speaks of the lists
  have hcnt : ∀ i, Data.cnt ⟨seqs, cs.toArray, wraps⟩ i = (cs[i]?).getD #[] := fun i => by
    rw [Data.cnt, Array.getD_eq_getD_getElem?, List.getElem?_toArray]
  have hseq : ∀ i, Data.seq ⟨seqs, cs.toArray, wraps⟩ i = (seqs.toList[i]?).getD #[] := fun i => by
    rw [Data.seq, Array.getD_eq_getD_getElem?, Array.getElem?_toList]
  exact
    { ncounts := h2
      sym := hsym
      csize := fun i hi => by rw [hcnt]; exact (h3 i hi).1
      cnt := fun i hi c hc => by rw [hcnt, hseq]; exact (h3 i hi).2 c hc }

/-! ### the active flags -/

/-- a `BitVec` whose counter agrees with its flags -/
def BitsOK (D : Data) (b : Bits) : Prop :=
  b.data.size = D.n ∧ b.count = alignCount D (fun i => b.data.getD i false)

theorem ones_getD (n i : Nat) (hi : i < n) : (Bits.ones n).data.getD i false = true := by
  simp [Bits.ones, hi]

theorem bitsOK_ones (D : Data) : BitsOK D (Bits.ones D.n) :=
  ⟨Array.size_replicate .., ((sumTo_congr fun i hi => if_pos (ones_getD D.n i hi)).trans
    (sumTo_const_one D.n)).symm⟩

theorem bitsOK_zeros (D : Data) : BitsOK D (Bits.zeros D.n) :=
  ⟨Array.size_replicate .., (sumTo_eq_zero.mpr fun i hi => by simp [Bits.zeros, hi]).symm⟩

theorem Bits.set_spec (D : Data) (b : Bits) (i : Nat) (hb : BitsOK D b) (hi : i < D.n) :
    ∃ b', b.set i = .ok b' ∧ BitsOK D b' ∧ b'.data.getD i false = true ∧
      ∀ k, b.data.getD k false = true → b'.data.getD k false = true := by
  fun_cases Bits.set b i with
  | case1 _ h => exact ⟨b, rfl, hb, h, fun _ hk => hk⟩  -- the flag is set already
  | case2 his h =>  -- the flag is clear: it is set and counted
    have hnew := getD_set_fun b.data i true false his
    refine ⟨_, rfl, ⟨by simp [hb.1], ?_⟩, ?_, ?_⟩
    all_goals dsimp only
    · rw [hnew, hb.2]; exact (alignCount_withSeq D _ hi (eq_false_of_ne_true h)).symm
    · exact (congrFun hnew i).trans (if_pos rfl)
    · intro k hk; rw [congrFun hnew k, hk]; exact ite_self _
  | case3 his => exact absurd (hb.1 ▸ hi) his

theorem seedLoop_spec (D : Data) (seeds : List Nat) (b : Bits) (acc : List Nat)
    (hb : BitsOK D b) (hs : ∀ i, i ∈ seeds → i < D.n) :
    ∃ b', seedLoop seeds b acc = .ok (b', acc ++ seeds) ∧ BitsOK D b' ∧
      (∀ k, (b.data.getD k false = true ∨ k ∈ seeds) → b'.data.getD k false = true) := by
  induction seeds generalizing b acc with
  | nil => exact ⟨b, by rw [List.append_nil]; rfl, hb, fun k hk => hk.elim id (fun h => nomatch h)⟩
  | cons i is ih =>
    obtain ⟨b1, h1, hb1, hset, hmono⟩ := Bits.set_spec D b i hb (hs i (List.mem_cons_self ..))
    obtain ⟨b', h2, h3, h4⟩ := ih b1 (acc ++ [i]) hb1 (fun k hk => hs k (List.mem_cons_of_mem _ hk))
    refine ⟨b', ?_, h3, fun k hk => h4 k ?_⟩
    · rw [seedLoop, h1]; dsimp only; rw [h2, List.append_assoc]; rfl
    · rcases hk with h | h
      · exact .inl (hmono k h)
      · rcases List.mem_cons.mp h with rfl | h'
        · exact .inl hset
        · exact .inr h'

theorem initFlags_ok {D : Data} (P : Params) (seeds : List Nat)
    (hseeds : P.zoops = true → ∀ i ∈ seeds, i < D.n) :
    ∃ b seed, (if P.zoops = true then seedLoop seeds (Bits.zeros D.n) []
        else .ok (Bits.ones D.n, [])) = .ok (b, seed) ∧ BitsOK D b ∧ (∀ i, i ∈ seed → i < D.n) ∧
      (P.zoops = false → ∀ i, i < D.n → b.data.getD i false = true) ∧
      (P.zoops = true → ∀ i, i ∈ seeds → b.data.getD i false = true) := by
  cases hz : P.zoops with
  | true =>
    obtain ⟨b, h1, h2, h3⟩ := seedLoop_spec D seeds (Bits.zeros D.n) [] (bitsOK_zeros D) (hseeds hz)
    exact ⟨b, seeds, by rw [if_pos rfl]; exact h1, h2, hseeds hz, (fun h => by cases h),
      fun _ i hi => h3 i (Or.inr hi)⟩
  | false =>
    exact ⟨Bits.ones D.n, [], by rw [if_neg (by simp)], bitsOK_ones D, (fun i hi => by cases hi),
      (fun _ i hi => ones_getD D.n i hi), fun h => by cases h⟩

/-! ### the two construction loops of `_new` -/

theorem forUp_add_active {σ ι : Type} (ok : σ → Prop) (rd : σ → ι → Nat) (a : Nat → Bool)
    (d : Nat → ι → Nat) (n : Nat) (f : Nat → σ → R σ) (s : σ) (h0 : ok s)
    (hs : ∀ j t, j < n → ok t → a j = true →
      ∃ t', f j t = .ok t' ∧ ok t' ∧ ∀ c, rd t' c = rd t c + d j c) :
    ∃ t, forUp n (fun j t => if a j then f j t else .ok t) s = .ok t ∧ ok t ∧
      ∀ c, rd t c = rd s c + sumTo n (fun j => if a j = true then d j c else 0) := by
  apply forUp_add ok rd _ _ _ _ h0
  intro j t hj ht
  by_cases ha : a j = true
  · simpa only [if_pos ha] using hs j t hj ht ha
  · exact ⟨t, if_neg ha, ht, fun c => by rw [if_neg ha]; rfl⟩

/-- The loop is written as in the body of `init`, lambda for lambda: `init_spec` rewrites with this
    equation, so the two must stay syntactically equal (`initBg_ok` alike). -/
theorem initMotif_ok {K : Nat} {D : Data} (hwf : D.WF K) (w : Nat) (starts : Array Nat) (a : Array Bool)
    (hin : ∀ i, i < D.n → starts.getD i 0 + w ≤ (D.seq i).size) :
    ∃ m : Mat Nat K, forUp D.n (fun i m =>
        if a.getD i false then addWindow (D.seq i) (starts.getD i 0) w m else .ok m)
        (Mat.ofFn w (fun _ _ => 0)) = .ok m ∧ m.rows = w ∧
      ∀ j, j < w → ∀ c, m.get j c =
        alignMotif D (fun i => starts.getD i 0) (fun i => a.getD i false) j c := by
  refine (forUp_add_active (fun t : Mat Nat K => t.rows = w) (fun t (p : Nat × Nat) => t.get p.1 p.2)
    (fun i => a.getD i false) (fun i p => if p.1 < w then
      (if (D.seq i).getD (starts.getD i 0 + p.1) 0 = p.2 then 1 else 0) else 0) D.n _ _
    (Mat.rows_ofFn ..) fun i t hi ht _ => ?_).imp fun m ⟨h1, h2, h3⟩ => ⟨h1, h2, fun j hj c => ?_⟩
  · obtain ⟨m', h1, h2, h3⟩ := addWindow_ok (D.seq i) (starts.getD i 0) w t ht (hin i hi) (hwf.sym i hi)
    exact ⟨m', h1, h2, fun p => h3 p.1 p.2⟩
  · rw [h3 (j, c), alignMotif_eq, show (Mat.ofFn w (fun _ _ => 0) : Mat Nat K).get j c = 0 by
      rw [Mat.get_ofFn]; exact ite_self _, Nat.zero_add]
    exact sumTo_congr fun i _ => by rw [if_pos (show (j, c).1 < w from hj)]

theorem initBg_ok {K : Nat} {D : Data} (hwf : D.WF K) (w : Nat) (starts : Array Nat) (a : Array Bool)
    (hin : ∀ i, i < D.n → starts.getD i 0 + w ≤ (D.seq i).size) :
    ∃ b : Array Nat, forUp D.n (fun i b =>
        if a.getD i false then addOutside K (D.cnt i) (D.seq i) (starts.getD i 0) w b
        else .ok b)
        (Array.replicate K 0) = .ok b ∧ b.size = K ∧
      ∀ c, c < K → b.getD c 0 =
        alignBg D w (fun i => starts.getD i 0) (fun i => a.getD i false) c := by
  -- counters are read at `c < K` only: that is where `addCounts_bgSubWindow_ok` has a closed form
  refine (forUp_add_active (fun t : Array Nat => t.size = K) (fun t (c : {c // c < K}) => t.getD c.1 0)
    (fun i => a.getD i false) (fun i c => outCount (D.seq i) (starts.getD i 0) w c.1) D.n _ _
    (Array.size_replicate ..) fun i t hi ht _ => ?_).imp
    fun b ⟨h1, h2, h3⟩ => ⟨h1, h2, fun c hc => by
      rw [h3 ⟨c, hc⟩, show (Array.replicate K 0).getD c 0 = 0 by simp [hc], Nat.zero_add]; rfl⟩
  obtain ⟨b1, b2, h1, h2, h3, h4⟩ := addCounts_bgSubWindow_ok (D.cnt i) (D.seq i) (starts.getD i 0) w t
    (hwf.csize i hi) ht (hin i hi) (hwf.sym i hi) (hwf.cnt i hi)
  exact ⟨b2, by rw [addOutside, h1]; exact h2, h3, fun c => h4 c.1 c.2⟩

/-! ### `_new` -/

/-- what `_new` builds: besides the invariant, which sequences are active — every one in Oops
    mode, the drawn seeds in Zoops mode; `C16.oops_never_panics` / `zoops_never_panics` get their
    two active sequences from these clauses -/
structure Built {K : Nat} (D : Data) (P : Params) (ic : InitChoice) (s : State K) : Prop where
  inv : Inv D P.w s
  oops : P.zoops = false → ∀ i, i < D.n → act s i = true
  zoops : P.zoops = true → ∀ i, i ∈ ic.seeds → act s i = true

/-- `Sampler::_new` with admissible draws: it panics exactly when a sequence has fewer wrap rows
    than the width (`panic!("booh")`), and otherwise returns a state satisfying the invariant.
    `InitAdm` can hold only if every sequence has at least `w` symbols (a start is `≤ L_i - w`): for
    a dataset with a shorter sequence this says nothing, and the code panics on `len - width`. -/
theorem init_spec {K : Nat} {D : Data} {P : Params} {ic : InitChoice}
    (hwf : D.WF K) (hadm : InitAdm D P ic) :
    OkUnless (D.wraps.any (· < P.w) = true) (Built D P ic) (init (K := K) D P ic) := by
  obtain ⟨hn, hin, hseeds⟩ := hadm
  unfold init
  cases hw : D.wraps.any (· < P.w) with
  | true => exact rfl
  | false =>
    rw [if_neg (by simp)]
    -- the `"underflow"` site (`len - width`): an admissible start leaves room for the window
    have hlen : D.seqs.any (·.size < P.w) = false := by
      rw [Array.any_eq_false]
      intro i hi h
      have := hin i hi
      rw [show D.seq i = D.seqs[i] from dif_pos hi] at this
      have hw : P.w ≤ D.seqs[i].size := Nat.le_of_add_left_le this
      exact Nat.not_lt.mpr hw (of_decide_eq_true h)
    -- … and the `"shape"` site: one start per sequence, one cached count vector per sequence
    rw [hlen, if_neg (by simp), if_neg (fun h => by rcases h with h | h; exact h hn; exact h hwf.ncounts)]
    obtain ⟨b, seed, hb1, hb2, hb3, hb4, hb5⟩ := initFlags_ok P ic.seeds (fun hz => (hseeds hz).1)
    obtain ⟨m, hm1, hm2, hm3⟩ := initMotif_ok (K := K) hwf P.w ic.starts b.data hin
    obtain ⟨bg, hg1, hg2, hg3⟩ := initBg_ok (K := K) hwf P.w ic.starts b.data hin
    simp only [hb1, hm1, hg1]
    -- `st` and `act` of the new state are unfolded by hand: the unifier would unfold `Array.getD` first
    refine ⟨nofun, ?_, by unfold act; exact hb4, by unfold act; exact hb5⟩
    exact
      { nstarts := hn
        nactive := hb2.1
        rows := hm2
        bgsize := hg2
        inside := by unfold st; exact hin
        motif := by unfold st act; intro j hj c _; exact hm3 j hj c
        bg := by unfold st act; exact hg3
        count := by unfold act; exact hb2.2
        last := Nat.le_refl _
        seedlt := hb3 }

end Sampler
end LMV
