/-
  LMV.Lemmas.Nom — what the ported combinators do, whatever the format.  Lengths: `Eats k f` (never
  `Incomplete`, a success consumes at least `k` bytes; sequencing adds the indices) holds of every
  ported combinator except the streaming `space1S`, which is there to state the defect it caused.
  `Good` (`Eats 0`) and `Strict` only state the leaf results `good_*` / `strict_*`.  Values: a
  success of `pair`, `pmap`, … taken apart (`*_ok`) and put together (`*_eval`); the values of
  `many1`, `separated_list1`, `count`.  Core Lean only.
-/
import LMV.Model.Nom

namespace LMV
namespace Nom

open Io

variable {α β γ : Type} {k a b c : Nat}

structure Good (f : Parser α) : Prop where
  noInc : ∀ i, f i ≠ .incomplete
  le : ∀ i r v, f i = .ok r v → r.length ≤ i.length

def Strict (f : Parser α) : Prop := ∀ i r v, f i = .ok r v → r.length < i.length

def Ate (k : Nat) (i : Bytes) : PRes α → Prop
  | .ok r _ => r.length + k ≤ i.length
  | .incomplete => False
  | _ => True

def Eats (k : Nat) (f : Parser α) : Prop := ∀ i, Ate k i (f i)

namespace Ate

variable {i j : Bytes} {p : PRes α}

/-- `p` ate `a` of `j`, hence `b` of any `i` with `b + |j| ≤ a + |i|`: how a loop lemma passes from
    the rest `j` an iteration starts at to the input `i` of the loop -/
theorem weaken (hp : Ate a j p) (h : b + j.length ≤ a + i.length) : Ate b i p := by
  cases p with
  | ok r v => exact Nat.le_of_add_le_add_left (a := a) (by simp only [Ate] at hp; omega)
  | incomplete => exact hp
  | _ => trivial

theorem of_le (hp : Ate a j p) (h : j.length ≤ i.length) : Ate a i p :=
  hp.weaken (Nat.add_le_add_left h a)

/-- the `?` of the Rust source: what `K` makes of the rest is counted from the original input.
    The `match` has its arms in the order `ok / err / fail / incomplete` of the models' own matches:
    that is what lets `(hf i).bind …` be checked against `pair`, `mapRes`, `built` by unfolding alone.
    It does not apply to a combinator written with a catch-all arm (`alt`, `parseTag`) or with `_`
    patterns; there the result is taken apart by `cases`. -/
theorem bind (hp : Ate a i p) {K : Bytes → α → PRes β} (hK : ∀ r v, p = .ok r v → Ate b r (K r v)) :
    Ate (a + b) i (match p with
      | .ok r v => K r v | .err => .err | .fail => .fail | .incomplete => .incomplete) := by
  cases p with
  | ok r v =>
    have h : a + b + r.length ≤ b + i.length := by
      rw [Nat.add_right_comm, Nat.add_comm a, Nat.add_comm b]; exact Nat.add_le_add_right hp b
    exact (hK r v rfl).weaken h
  | incomplete => exact hp
  | _ => trivial

/-- the same for the arm order `err / fail / incomplete / ok` of `many1` and `separated_list1` -/
theorem first (hp : Ate a i p) {K : Bytes → α → PRes β} (hK : ∀ r v, Ate 0 r (K r v)) :
    Ate a i (match p with
      | .err => .err | .fail => .fail | .incomplete => .incomplete | .ok r v => K r v) := by
  cases p with
  | ok r v => exact (hK r v).weaken (by rw [Nat.zero_add, Nat.add_comm]; exact hp)
  | incomplete => exact hp
  | _ => trivial

theorem map (hp : Ate k i p) (g : α → β) : Ate k i (p.map g) := by
  cases p <;> exact hp

end Ate

namespace Eats

variable {f : Parser α}

theorem le (hf : Eats k f) {i r : Bytes} {v : α} (hp : f i = .ok r v) : r.length + k ≤ i.length := by
  have := hf i; rwa [hp] at this

theorem noInc (hf : Eats k f) (i : Bytes) : f i ≠ .incomplete := fun e => by
  have := hf i; rwa [e] at this

theorem mono (hf : Eats a f) (h : b ≤ a) : Eats b f := fun i => (hf i).weaken (Nat.add_le_add_right h _)

theorem good (hf : Eats k f) : Good f := ⟨hf.noInc, fun _ _ _ hp => Nat.le_of_add_right_le (hf.le hp)⟩

theorem strict (hf : Eats (k + 1) f) : Strict f := fun _ _ _ hp =>
  Nat.lt_of_lt_of_le (Nat.lt_add_of_pos_right (Nat.succ_pos k)) (hf.le hp)

end Eats

theorem Eats.of {f : Parser α} (hn : ∀ i, f i ≠ .incomplete)
    (hl : ∀ i r v, f i = .ok r v → r.length + k ≤ i.length) : Eats k f := fun i => by
  cases hp : f i with
  | ok r v => exact hl i r v hp
  | incomplete => exact hn i hp
  | _ => trivial

theorem length_dropWhile_le (p : UInt8 → Bool) (l : Bytes) : (l.dropWhile p).length ≤ l.length :=
  (List.dropWhile_sublist p).length_le

/-! ### primitives -/

theorem eats_tag (t : Bytes) : Eats t.length (tag t) := fun i => by
  fun_cases tag t i
  case case1 hp =>
    exact Nat.le_of_eq (by
      rw [List.length_drop, Nat.sub_add_cancel (List.isPrefixOf_iff_prefix.mp hp).length_le])
  case case2 => trivial

theorem eats_takeWhile (p : UInt8 → Bool) : Eats 0 (takeWhile p) := fun i => length_dropWhile_le p i

theorem eats_takeTill (p : UInt8 → Bool) : Eats 0 (takeTill p) := fun i => length_dropWhile_le _ i

theorem eats_takeUntilByte (d : UInt8) : Eats 0 (takeUntilByte d) := fun i => by
  unfold takeUntilByte
  split
  · exact length_dropWhile_le _ i
  · trivial

theorem splitChars_le (n : Nat) (i p r : Bytes) (h : splitChars n i = some (p, r)) :
    r.length + n ≤ i.length := by
  fun_induction splitChars n i generalizing p r
  case case1 => cases h; exact Nat.le_refl _
  case case3 hs ih =>
    cases h
    exact Nat.succ_le_succ (Nat.le_trans (ih _ _ hs) (List.drop_sublist ..).length_le)
  all_goals cases h

theorem eats_takeChars (n : Nat) : Eats n (takeChars n) := fun i => by
  unfold takeChars
  split
  · rename_i hs; exact splitChars_le n i _ _ hs
  · trivial

theorem eats_space0 : Eats 0 space0 := eats_takeWhile _

/-- a non-empty run of bytes that satisfy `p`: the text of `space1` and `digit1` -/
theorem ate_run1 (p : UInt8 → Bool) (i : Bytes) :
    Ate 1 i (match i with
      | b :: _ => if p b then PRes.ok (i.dropWhile p) (i.takeWhile p) else .err
      | [] => .err) := by
  split
  · rename_i b bs
    split
    · rename_i hb
      rw [List.dropWhile_cons_of_pos hb]
      exact Nat.succ_le_succ (length_dropWhile_le p bs)
    · trivial
  · trivial

theorem eats_space1 : Eats 1 space1 := ate_run1 isSpace

theorem eats_digit1 : Eats 1 digit1 := ate_run1 isDigit

theorem eats_lineEnding : Eats 1 lineEnding := fun i => by
  unfold lineEnding
  split <;> simp [Ate]

theorem eats_notLineEnding : Eats 0 notLineEnding := fun i => by
  have := length_dropWhile_le (fun b => !(b = 0x0D || b = 0x0A)) i
  simp only [notLineEnding]
  split
  · exact Nat.zero_le _
  · split
    · exact this
    · trivial
  · exact this

theorem eats_char (c : UInt8) : Eats 1 (char c) := fun i => by
  unfold char
  split
  · split
    · exact Nat.le_refl _
    · trivial
  · trivial

theorem eats_anychar : Eats 1 anychar := fun i => by
  unfold anychar
  split
  · simp [Ate]
  · trivial

theorem eats_eof : Eats 0 eof := fun i => by
  unfold eof
  split
  · exact Nat.le_refl _
  · trivial

theorem ate_uintLoop (bound : Nat) (i : Bytes) (v : Nat) : Ate 0 i (uintLoop bound i v) := by
  fun_induction uintLoop bound i v
  case case2 ih => exact ih.of_le (Nat.le_succ _)
  case case3 => trivial
  all_goals exact Nat.le_refl _

theorem eats_uint (bound : Nat) : Eats 1 (uint bound) := fun i => by
  fun_cases uint bound i
  case case2 b r hb =>
    simp only [uintLoop, hb, if_true]
    split
    · exact (ate_uintLoop bound r _).weaken (by rw [Nat.zero_add, Nat.add_comm]; exact Nat.le_refl _)
    · trivial
  all_goals trivial

/-! ### combinators -/

namespace Eats

variable {f : Parser α} {g : Parser β} {h : Parser γ}

theorem pmap (hf : Eats k f) (g : α → β) : Eats k (pmap f g) := fun i => (hf i).map g

theorem opt (hf : Eats k f) : Eats 0 (opt f) := fun i => by
  have := hf i
  unfold Nom.opt
  generalize f i = p at this ⊢
  cases p with
  | ok r v => exact this.weaken (Nat.add_le_add_right (Nat.zero_le k) _)
  | err => exact Nat.le_refl _
  | fail => trivial
  | incomplete => exact this

theorem alt {g : Parser α} (hf : Eats k f) (hg : Eats k g) : Eats k (alt f g) := fun i => by
  have := hf i
  unfold Nom.alt
  generalize f i = p at this ⊢
  cases p with
  | err => exact hg i
  | _ => exact this

-- `bind` yields `Ate (a + b)`; with `(b := 0)` that is `Ate a` because `a + 0` reduces to `a`, which
-- `exact` sees by unfolding and `weaken` in `count` below has to be told (`a := a + 0`)
theorem mapRes (hf : Eats k f) (g : α → Option β) : Eats k (mapRes f g) := fun i =>
  (hf i).bind (b := 0) fun r v _ => by split <;> first | exact Nat.le_refl _ | trivial

theorem pair (hf : Eats a f) (hg : Eats b g) : Eats (a + b) (pair f g) := fun i =>
  (hf i).bind fun r _ _ => (hg r).bind (b := 0) fun _ _ _ => Nat.le_refl _

theorem preceded (hf : Eats a f) (hg : Eats b g) : Eats (a + b) (preceded f g) := (hf.pair hg).pmap _

theorem terminated (hf : Eats a f) (hg : Eats b g) : Eats (a + b) (terminated f g) := (hf.pair hg).pmap _

theorem delimited (hf : Eats a f) (hg : Eats b g) (hh : Eats c h) :
    Eats (a + (b + c)) (delimited f g h) := hf.preceded (hg.terminated hh)

theorem separatedPair (hf : Eats a f) (hg : Eats b g) (hh : Eats c h) :
    Eats (a + (b + c)) (separatedPair f g h) := hf.pair (hg.preceded hh)

theorem count (hf : Eats a f) : ∀ n, Eats 0 (count f n)
  | 0 => fun _ => Nat.le_refl _
  | n + 1 => fun i => by
    refine Ate.weaken (a := a + 0) (j := i) ?_ (Nat.add_le_add_right (Nat.zero_le _) _)
    refine (hf i).bind fun r _ _ => ?_
    have := count hf n r
    generalize Nom.count f n r = p at this ⊢
    cases p <;> exact this

theorem manyLoop (hf : Eats a f) (i : Bytes) (acc : List α) : Ate 0 i (manyLoop f i acc) := by
  fun_induction Nom.manyLoop f i acc
  case case1 => exact Nat.le_refl _
  case case3 h => exact hf.noInc _ h
  case case4 h ih => exact ih.of_le (Nat.le_of_lt h)
  all_goals trivial

theorem many1 (hf : Eats a f) : Eats a (many1 f) := fun i =>
  (hf i).first fun r v => hf.manyLoop r [v]

theorem sepLoop {s : Parser β} (hs : Eats a s) (hf : Eats b f) (i : Bytes) (acc : List α) :
    Ate 0 i (sepLoop s f i acc) := by
  fun_induction Nom.sepLoop s f i acc
  case case1 | case4 => exact Nat.le_refl _
  case case3 h => exact hs.noInc _ h
  case case6 h => exact hf.noInc _ h
  -- both succeed and pass the two guards `h1 : i1.length < i.length`, `h2 : i2.length ≤ i1.length`
  case case7 h1 _ _ _ h2 ih => exact ih.of_le (Nat.le_of_lt (Nat.lt_of_le_of_lt h2 h1))
  all_goals trivial

theorem sepList1 {s : Parser β} (hs : Eats a s) (hf : Eats b f) : Eats b (sepList1 s f) := fun i =>
  (hf i).first fun r v => hs.sepLoop hf r [v]

theorem sepList0 {s : Parser β} (hs : Eats a s) (hf : Eats b f) : Eats 0 (sepList0 s f) := fun i => by
  have h1 := hf i
  unfold Nom.sepList0
  generalize f i = p at h1 ⊢
  cases p with
  | ok i1 o => exact (hs.sepLoop hf i1 [o]).of_le (Nat.le_of_add_right_le h1)
  | err => exact Nat.le_refl _
  | fail => trivial
  | incomplete => exact h1

end Eats

/-! ### float -/

theorem length_optSign_le (i : Bytes) : (optSign i).length ≤ i.length := by
  unfold optSign; split
  · split <;> simp
  · simp

theorem mantissaEnd_le (i i2 : Bytes) (h : mantissaEnd i = some i2) : i2.length ≤ i.length := by
  revert h
  fun_cases mantissaEnd i
  -- digits, then `.`: the `match` on what follows the digits is still in the goal, `hr2` decides it
  case case1 b r _ r2 hr2 =>
    have h3 := length_dropWhile_le isDigit (b :: r)
    rw [hr2] at h3 ⊢
    intro h; cases h
    exact Nat.le_trans (length_dropWhile_le isDigit r2) (Nat.le_of_succ_le h3)
  -- digits, then no `.` (`hr`): of the same `match` only the second arm is left
  case case2 _ _ _ hr =>
    split
    · exact absurd ‹_› (hr _)
    · intro h; cases h; exact length_dropWhile_le _ _
  -- `.`, then digits
  case case3 c tl _ _ => intro h; cases h; exact Nat.le_succ_of_le (length_dropWhile_le isDigit (c :: tl))
  all_goals exact nofun

theorem ate_exponentEnd (i : Bytes) : Ate 0 i (exponentEnd i) := by
  fun_cases exponentEnd i
  -- a marker, then `optSign r = c :: r1` with `c` a digit
  case case1 _ r _ c r1 hc _ =>
    have h5 := length_optSign_le r
    rw [hc] at h5
    exact Nat.le_trans (length_dropWhile_le isDigit (c :: r1)) (Nat.le_succ_of_le h5)
  case case2 | case3 => trivial
  case case4 | case5 => exact Nat.le_refl _

theorem ate_floatEnd (i : Bytes) : Ate 0 i (floatEnd i) := by
  unfold floatEnd
  cases hm : mantissaEnd (optSign i) with
  | none => trivial
  | some i2 =>
    exact (ate_exponentEnd i2).of_le (Nat.le_trans (mantissaEnd_le _ _ hm) (length_optSign_le i))

theorem eats_tagNoCase (t : Bytes) : Eats 0 (tagNoCase t) := fun i => by
  unfold tagNoCase
  split
  · simp [Ate]
  · trivial

theorem eats_recognizeFloat : Eats 0 recognizeFloat := fun i => by
  have h1 := ate_floatEnd i
  unfold recognizeFloat
  generalize floatEnd i = p at h1 ⊢
  cases p with
  | ok r v => exact h1
  | err =>
    exact ((eats_tagNoCase _).alt ((eats_tagNoCase _).alt (eats_tagNoCase _))) i
  | fail => trivial
  | incomplete => exact h1

theorem eats_float (conv : Bytes → Option α) : Eats 0 (float conv) := eats_recognizeFloat.mapRes conv

/-! ### a success of a combination, taken apart and put together -/

theorem pair_ok {f : Parser α} {g : Parser β} {i r : Bytes} {v : α × β} (h : pair f g i = .ok r v) :
    ∃ r1, f i = .ok r1 v.1 ∧ g r1 = .ok r v.2 := by
  revert h
  fun_cases pair f g i
  case case1 hf _ _ hg => intro h; cases h; exact ⟨_, hf, hg⟩
  all_goals exact nofun

theorem pmap_ok {f : Parser α} {g : α → β} {i r : Bytes} {w : β}
    (h : pmap f g i = .ok r w) : ∃ v, f i = .ok r v ∧ w = g v := by
  unfold pmap at h
  cases h' : f i with
  | ok r' v' =>
    rw [h'] at h; simp only [PRes.map, PRes.ok.injEq] at h
    exact ⟨v', by rw [h.1], h.2.symm⟩
  | _ => rw [h'] at h; simp [PRes.map] at h

theorem preceded_ok {f : Parser α} {g : Parser β} {i r : Bytes} {w : β} (h : preceded f g i = .ok r w) :
    ∃ r1 v, f i = .ok r1 v ∧ g r1 = .ok r w := by
  obtain ⟨v, hv, rfl⟩ := pmap_ok h
  obtain ⟨r1, h1, h2⟩ := pair_ok hv
  exact ⟨r1, v.1, h1, h2⟩

theorem terminated_ok {f : Parser α} {g : Parser β} {i r : Bytes} {v : α} (h : terminated f g i = .ok r v) :
    ∃ r1 w, f i = .ok r1 v ∧ g r1 = .ok r w := by
  obtain ⟨p, hp, rfl⟩ := pmap_ok h
  obtain ⟨r1, h1, h2⟩ := pair_ok hp
  exact ⟨r1, p.2, h1, h2⟩

theorem delimited_ok {f : Parser α} {g : Parser β} {h : Parser γ} {i r : Bytes} {w : β}
    (hd : delimited f g h i = .ok r w) :
    ∃ r1 r2 u x, f i = .ok r1 u ∧ g r1 = .ok r2 w ∧ h r2 = .ok r x := by
  obtain ⟨r1, u, h1, h2⟩ := preceded_ok hd
  obtain ⟨r2, x, h3, h4⟩ := terminated_ok h2
  exact ⟨r1, r2, u, x, h1, h3, h4⟩

theorem pair_eval {f : Parser α} {g : Parser β} {i r1 r2 : Bytes} {a : α} {b : β}
    (h1 : f i = .ok r1 a) (h2 : g r1 = .ok r2 b) : pair f g i = .ok r2 (a, b) := by
  simp [pair, h1, h2]

theorem pmap_eval {f : Parser α} {g : α → β} {i r : Bytes} {a : α} (h : f i = .ok r a) :
    pmap f g i = .ok r (g a) := by
  simp [pmap, h, PRes.map]

theorem preceded_eval {f : Parser α} {g : Parser β} {i r1 r2 : Bytes} {a : α} {b : β}
    (h1 : f i = .ok r1 a) (h2 : g r1 = .ok r2 b) : preceded f g i = .ok r2 b :=
  pmap_eval (pair_eval h1 h2)

theorem terminated_eval {f : Parser α} {g : Parser β} {i r1 r2 : Bytes} {a : α} {b : β}
    (h1 : f i = .ok r1 a) (h2 : g r1 = .ok r2 b) : terminated f g i = .ok r2 a :=
  pmap_eval (pair_eval h1 h2)

theorem delimited_eval {f : Parser α} {g : Parser β} {h : Parser γ} {i r1 r2 r3 : Bytes} {a : α}
    {b : β} {c : γ} (h1 : f i = .ok r1 a) (h2 : g r1 = .ok r2 b) (h3 : h r2 = .ok r3 c) :
    delimited f g h i = .ok r3 b :=
  preceded_eval h1 (terminated_eval h2 h3)

theorem count_succ {f : Parser α} {n : Nat} {i r1 r2 : Bytes} {a : α} {as : List α}
    (h1 : f i = .ok r1 a) (h2 : count f n r1 = .ok r2 as) : count f (n + 1) i = .ok r2 (a :: as) := by
  simp only [count, h1, h2]

theorem opt_err {f : Parser α} {i : Bytes} (h : f i = .err) : opt f i = .ok i none := by
  simp [opt, h]

theorem opt_ok {f : Parser α} {i r : Bytes} {a : α} (h : f i = .ok r a) : opt f i = .ok r (some a) := by
  simp [opt, h]

theorem tag_eval (t rest : Bytes) : tag t (t ++ rest) = .ok rest t := by
  unfold tag
  have : t.isPrefixOf (t ++ rest) = true := by simp [List.isPrefixOf_iff_prefix]
  simp [this]

theorem lineEnding_lf (rest : Bytes) : lineEnding (0x0A :: rest) = .ok rest [0x0A] := rfl

/-! ### the values a repetition returns -/

theorem manyLoop_mem {f : Parser α} (P : α → Prop) (hP : ∀ i r v, f i = .ok r v → P v)
    (i : Bytes) (acc : List α) (hacc : ∀ a ∈ acc, P a) {r : Bytes} {vs : List α}
    (h : manyLoop f i acc = .ok r vs) : (∀ a ∈ vs, P a) ∧ acc.length ≤ vs.length := by
  fun_induction manyLoop f i acc
  case case1 =>
    cases h
    exact ⟨fun a ha => hacc a (List.mem_reverse.mp ha), Nat.le_of_eq List.length_reverse.symm⟩
  case case4 h1 _ ih =>
    have := ih (List.forall_mem_cons.mpr ⟨hP _ _ _ h1, hacc⟩) h
    exact ⟨this.1, Nat.le_of_succ_le this.2⟩
  all_goals cases h

theorem many1_mem {f : Parser α} (P : α → Prop) (hP : ∀ i r v, f i = .ok r v → P v)
    {i r : Bytes} {vs : List α} (h : many1 f i = .ok r vs) : (∀ a ∈ vs, P a) ∧ vs ≠ [] := by
  revert h
  fun_cases many1 f i
  case case4 i1 o hf =>
    intro h
    have := manyLoop_mem P hP i1 [o] (List.forall_mem_singleton.mpr (hP _ _ _ hf)) h
    exact ⟨this.1, List.ne_nil_of_length_pos this.2⟩
  all_goals exact nofun

theorem sepLoop_mem {β : Type} {s : Parser β} {f : Parser α} (P : α → Prop)
    (hP : ∀ i r v, f i = .ok r v → P v) (i : Bytes) (acc : List α) (hacc : ∀ a ∈ acc, P a)
    {r : Bytes} {vs : List α} (h : sepLoop s f i acc = .ok r vs) : ∀ a ∈ vs, P a := by
  fun_induction sepLoop s f i acc
  case case1 | case4 => cases h; exact fun a ha => hacc a (List.mem_reverse.mp ha)
  case case7 h2 _ ih => exact ih (List.forall_mem_cons.mpr ⟨hP _ _ _ h2, hacc⟩) h
  all_goals cases h

theorem sepList1_mem {β : Type} {s : Parser β} {f : Parser α} (P : α → Prop)
    (hP : ∀ i r v, f i = .ok r v → P v) {i r : Bytes} {vs : List α}
    (h : sepList1 s f i = .ok r vs) : ∀ a ∈ vs, P a := by
  revert h
  fun_cases sepList1 s f i
  case case4 i1 o hf => exact sepLoop_mem P hP i1 [o] (List.forall_mem_singleton.mpr (hP _ _ _ hf))
  all_goals exact nofun

theorem count_length {β : Type} (f : Parser β) (k : Nat) :
    ∀ i r vs, count f k i = .ok r vs → vs.length = k := by
  induction k with
  | zero => intro i r vs h; cases h; rfl
  | succ k ih =>
    intro i r vs h
    simp only [count] at h
    split at h
    case h_1 =>
      split at h
      case h_1 h2 => cases h; exact congrArg Nat.succ (ih _ _ _ h2)
      all_goals cases h
    all_goals cases h

/-! ### in terms of `Good` and `Strict` -/

theorem good_digit1 : Good digit1 := eats_digit1.good

theorem strict_char (c : UInt8) : Strict (char c) := (eats_char c).strict

theorem strict_space1 : Strict space1 := eats_space1.strict

theorem strict_takeChars (n : Nat) (hn : 0 < n) : Strict (takeChars n) :=
  ((eats_takeChars n).mono hn).strict

theorem strict_sepList1 {s : Parser β} {f : Parser α} (hs : Good s) (hf : Good f) (hst : Strict f) :
    Strict (sepList1 s f) :=
  ((Eats.of (k := 0) hs.noInc hs.le).sepList1 (.of (k := 1) hf.noInc hst)).strict

end Nom
end LMV
