/-
  LMV.Lemmas.DistFacts — the two bundles every C11 theorem starts from.  `Hyp`: the hypotheses of the
  property on symbols, background and matrix.  `Facts`: what is known of the distribution `build`
  returns under them (established by `build_facts`, LMV.Lemmas.DistBuild), the lemmas through which
  the property theorems read it, and from there the p-value as a tail of the integer score.
-/
import LMV.Lemmas.DistProb

namespace LMV.Dist

/-! ### the hypotheses -/

/-- the hypotheses of the property, for the exact model -/
structure Hyp (R : Nat) (syms : List Nat) (bg : List Rat) (m : List (List (Option Rat))) : Prop where
  /-- background frequencies of the symbols are non-negative … -/
  bg_nonneg : ∀ a ∈ syms, 0 ≤ bg.getD a 0
  /-- … and sum to at most 1 (exactly 1 for a probability distribution; a wildcard with mass and a
      −∞ score is covered) -/
  bg_sum : (syms.map (fun a => bg.getD a 0)).sum ≤ 1
  /-- every row has a column for every symbol -/
  cols : ∀ row ∈ m, ∀ a ∈ syms, a < row.length
  /-- the table length fits the `i32` index type: table indices survive `as i32`, and the index
      saturated at `i32::MAX` lies past the end of the table -/
  i32_size : ((m.length * R + 1 : Nat) : Int) ≤ I32_MAX
  /-- the finite entries fit the `i32` offset `floor(small)`; only the least one is used, and the
      `+ 1` is there because `small` is lowered by 1 before the floor when all finite entries are equal
      (`adjustSmall`) -/
  i32_cells : ∀ x ∈ finiteCells m, (I32_MIN : Rat) + 1 ≤ x ∧ x ≤ (I32_MAX : Rat)

/-! ### what is known of a built distribution -/

/-- no word of the probability space indexes past the table: its integer score, when it is not
    skipped, is at most `M·R = sf.len() - 1` -/
def WordBound (R : Nat) (syms : List Nat) (M : Nat) (data : List (List Int)) : Prop :=
  ∀ w ∈ words syms M, ∀ t, dscore data w = some t → t ≤ M * R

/-- What the property theorems need to know about a built distribution: the hypotheses it was built
    under, the sizes, the exact and the integer score of every word of the probability space (both −∞,
    or within `M/2` steps, the integer one in `0 ..= M·R`), the density, and the state in which the sf
    loop ends (read through the lemmas below, not through `loop`). -/
structure Facts (R : Nat) (syms : List Nat) (bg : List Rat) (m : List (List (Option Rat)))
    (d : Dist Rat) : Prop where
  hyp : Hyp R syms bg m
  scale_pos : 0 < d.scale
  rows : d.rows = m.length
  size : d.sf.size = m.length * R + 1
  word : ∀ w ∈ words syms m.length,
    (rscore m w = none ∧ dscore d.data w = none) ∨
    ∃ v t, rscore m w = some v ∧ dscore d.data w = some t ∧
      d.scale * (v - m.length * d.offset) - (m.length : Rat) / 2 ≤ t ∧
      (t : Rat) ≤ d.scale * (v - m.length * d.offset) + (m.length : Rat) / 2
  wordBound : WordBound R syms m.length d.data
  pdf : ∀ j, vget (pdfOf R syms bg d.data) j = prob syms bg m.length (dEq d.data j)
  loop : SfInv (fun j => prob syms bg m.length (dEq d.data j))
    (fun j => prob syms bg m.length (dGe d.data (j : Int))) (m.length * R + 1) 0
    ⟨d.sf, d.minScore, d.maxScore⟩

variable {R : Nat} {syms : List Nat} {bg : List Rat} {m : List (List (Option Rat))} {d : Dist Rat}

namespace Facts

theorem minScore_range (F : Facts R syms bg m d) :
    0 ≤ d.minScore ∧ d.minScore < (d.sf.size : Int) :=
  ⟨F.loop.min_nonneg, by rw [F.size]; exact F.loop.min_lt⟩

theorem maxScore_range (F : Facts R syms bg m d) :
    0 ≤ d.maxScore ∧ d.maxScore < (d.sf.size : Int) :=
  ⟨F.loop.max_nonneg, by rw [F.size]; exact F.loop.max_lt⟩

theorem size_le_max (F : Facts R syms bg m d) : (d.sf.size : Int) ≤ I32_MAX := by
  rw [F.size]; exact F.hyp.i32_size

theorem min_mass (F : Facts R syms bg m d) {j : Nat} (hj : (j : Int) < d.minScore) :
    prob syms bg m.length (dEq d.data j) = 0 :=
  F.loop.min_mass j (Nat.zero_le _) hj

theorem sf (F : Facts R syms bg m d) {j : Nat} (hj : j < d.sf.size) :
    vget d.sf j = prob syms bg m.length (dGe d.data (j : Int)) :=
  F.loop.tail j (Nat.zero_le _) (F.size ▸ hj)

theorem sf_at (F : Facts R syms bg m d) {k : Int} (h0 : 0 ≤ k) (h1 : k.toNat < d.sf.size) :
    vget d.sf k.toNat = prob syms bg m.length (dGe d.data k) := by
  rw [F.sf h1, Int.toNat_of_nonneg h0]

theorem tail_large (F : Facts R syms bg m d) {k : Int} (hk : (d.sf.size : Int) ≤ k) :
    prob syms bg m.length (dGe d.data k) = 0 := by
  rw [F.size] at hk
  exact prob_dGe_of_large F.wordBound (lt_of_lt_of_le (Int.ofNat_lt.2 (Nat.lt_succ_self _)) hk)

theorem tail_above_max (F : Facts R syms bg m d) {k : Int} (hk : d.maxScore < k) :
    prob syms bg m.length (dGe d.data k) = 0 := by
  rw [prob_dGe_toNat k]
  have hk' : d.maxScore < (k.toNat : Int) := hk.trans_le (Int.self_le_toNat k)
  rcases Nat.lt_or_ge k.toNat d.sf.size with hlt | hge
  · rw [F.size] at hlt
    rcases F.loop.max_tail with ⟨hz, hall⟩ | ⟨_, hall⟩
    · exact hall _ (Int.natCast_pos.1 (lt_of_eq_of_lt hz.symm hk')) hlt
    · exact hall _ hk' hlt
  · exact F.tail_large (Int.ofNat_le.2 hge)

/-! ### from `Facts` to the p-value -/

theorem prob_sGe_le_dGe (F : Facts R syms bg m d) {x : Rat} {k : Int}
    (h : (k : Rat) + (m.length : Rat) / 2 ≤ d.scale * (x - m.length * d.offset)) :
    prob syms bg m.length (sGe m x) ≤ prob syms bg m.length (dGe d.data k) := by
  refine prob_mono F.hyp.bg_nonneg _ _ _ fun w hw hev => ?_
  unfold sGe at hev
  unfold dGe
  rcases F.word w hw with ⟨hr, -⟩ | ⟨v, t, hr, hd, hl, -⟩
  · rw [hr] at hev; cases hev
  · rw [hr, decide_eq_true_eq] at hev
    rw [hd, decide_eq_true_eq]
    have hxv : d.scale * (x - m.length * d.offset) ≤ d.scale * (v - m.length * d.offset) :=
      mul_le_mul_of_nonneg_left (sub_le_sub_right hev _) F.scale_pos.le
    -- k + M/2 ≤ scale·(x − M·offset) ≤ scale·(v − M·offset) ≤ t + M/2
    have hkt : (k : Rat) ≤ t := le_of_add_le_add_right ((h.trans hxv).trans (sub_le_iff_le_add.1 hl))
    exact Int.cast_le.1 (hkt.trans_eq (Int.cast_natCast t).symm)

theorem prob_dGe_le_sGe (F : Facts R syms bg m d) {x : Rat} {k : Int}
    (h : d.scale * (x - m.length * d.offset) + (m.length : Rat) / 2 ≤ k) :
    prob syms bg m.length (dGe d.data k) ≤ prob syms bg m.length (sGe m x) := by
  refine prob_mono F.hyp.bg_nonneg _ _ _ fun w hw hev => ?_
  unfold dGe at hev
  unfold sGe
  rcases F.word w hw with ⟨-, hd⟩ | ⟨v, t, hr, hd, -, hu⟩
  · rw [hd] at hev; cases hev
  · rw [hd, decide_eq_true_eq] at hev
    rw [hr, decide_eq_true_eq]
    have hkt : (k : Rat) ≤ t := (Int.cast_le.2 hev).trans_eq (Int.cast_natCast t)
    -- scale·(x − M·offset) + M/2 ≤ k ≤ t ≤ scale·(v − M·offset) + M/2
    have hxv : d.scale * (x - m.length * d.offset) ≤ d.scale * (v - m.length * d.offset) :=
      le_of_add_le_add_right ((h.trans hkt).trans hu)
    exact (sub_le_sub_iff_right _).1 (le_of_mul_le_mul_left hxv F.scale_pos)

/-- no mass below `min_score`: the tail is constant there -/
theorem tail_below_min (F : Facts R syms bg m d) {k : Int} (hk : k ≤ d.minScore) :
    prob syms bg m.length (dGe d.data k) = prob syms bg m.length (dGe d.data d.minScore) := by
  rw [prob_dGe_toNat k, prob_dGe_toNat d.minScore]
  exact prob_dGe_eq_of_no_mass (Int.toNat_le_toNat hk) fun i _ hi => F.min_mass (Int.lt_toNat.1 hi)

/-- `pvalue s` is the tail at the table index `scale s`, in every branch (below the minimum score,
    inside the table, past its end) -/
theorem pvalue_eq_tail_scaleScore (F : Facts R syms bg m d) (s : Rat) :
    d.pvalue s = prob syms bg m.length (dGe d.data (d.scaleScore s)) := by
  obtain ⟨hmin0, hminlt⟩ := F.minScore_range
  fun_cases Dist.pvalue d s with
  | case1 _ h1 =>  -- below the minimum score: the table at `min_score`
    rw [F.sf_at hmin0 ((Int.toNat_lt hmin0).2 hminlt), F.tail_below_min h1.le]
  | case2 _ h1 h2 =>  -- at or above the minimum score and negative: there is no such index
    exact absurd (hmin0.trans (not_lt.1 h1)) (not_le.2 h2)
  | case3 _ _ h2 h3 => rw [F.tail_large ((Int.le_toNat (not_lt.1 h2)).1 h3)]; rfl  -- past the end: 0
  | case4 _ _ h2 h3 => exact F.sf_at (not_lt.1 h2) (not_le.1 h3)  -- inside the table

/-- saturating the index at the `i32` bounds does not change the tail: `i32::MIN` lies below the
    minimum score, `i32::MAX` past the end of the table -/
theorem tail_clampI32 (F : Facts R syms bg m d) (k : Int) :
    prob syms bg m.length (dGe d.data (clampI32 k)) = prob syms bg m.length (dGe d.data k) := by
  have hMIN : I32_MIN ≤ d.minScore := le_trans (by decide) F.minScore_range.1
  fun_cases clampI32 k with
  | case1 h1 => rw [F.tail_below_min hMIN, F.tail_below_min (h1.le.trans hMIN)]
  | case2 h1 h2 => rw [F.tail_large F.size_le_max, F.tail_large (F.size_le_max.trans h2.le)]
  | case3 h1 h2 => rfl

theorem scaleScore_eq (F : Facts R syms bg m d) (s : Rat) :
    d.scaleScore s = clampI32 (ratRound ((s - m.length * d.offset) * d.scale)) := by
  rw [Dist.scaleScore, roundI32_rat, F.rows, ofInt_rat]
  push_cast
  rfl

end Facts

end LMV.Dist
