/-
  LMV.Lemmas.DistBuild — `build_facts`: under `Hyp` and `0 < scale`, what `build` returns satisfies
  `Facts` (LMV.Lemmas.DistFacts).  The work is the discretisation: every finite cell lands in `[0, R]`
  within half a step of its scaled value, so exact and integer score of a word differ by at most
  `M/2` steps.
-/
import LMV.Lemmas.DistFacts

namespace LMV.Dist

/-! ### offset, scale and the integer cells -/

/-- `offset` as the exact model computes it from the extreme finite cells -/
def offQ (small0 large : Rat) : Rat := offsetOf (adjustSmall small0 large)

/-- `scale` as the exact model computes it -/
def scaleQ (R : Nat) (small0 large : Rat) : Rat := scaleOf R large (offQ small0 large)

theorem offQ_eq (small0 large : Rat) :
    offQ small0 large = (((adjustSmall small0 large).floor : Int) : Rat) := rfl

theorem adjustSmall_bounds (small0 large : Rat) :
    small0 - 1 ≤ adjustSmall small0 large ∧ adjustSmall small0 large ≤ small0 := by
  fun_cases adjustSmall small0 large with
  | case1 h => rw [of_decide_eq_true h]; exact ⟨le_refl _, sub_le_self _ zero_le_one⟩
  | case2 h => exact ⟨sub_le_self _ zero_le_one, le_refl _⟩

theorem offQ_le (small0 large : Rat) : offQ small0 large ≤ small0 :=
  le_trans (Rat.floor_le _) (adjustSmall_bounds small0 large).2

theorem scaleQ_eq (R : Nat) (small0 large : Rat) :
    scaleQ R small0 large = ((((R : Rat) / (large - offQ small0 large)).floor : Int) : Rat) := by
  unfold scaleQ scaleOf
  simp

theorem span_pos {R : Nat} {small0 large : Rat} (hs : 0 < scaleQ R small0 large) :
    0 < large - offQ small0 large := by
  by_contra hcon
  have h1 : (R : Rat) / (large - offQ small0 large) ≤ 0 :=
    div_nonpos_of_nonneg_of_nonpos (Nat.cast_nonneg R) (not_lt.mp hcon)
  rw [scaleQ_eq] at hs
  exact absurd (lt_of_lt_of_le hs (Rat.floor_le _)) (not_lt.2 h1)

theorem scaled_cell_bounds {R : Nat} {small0 large x : Rat} (hs : 0 < scaleQ R small0 large)
    (hlo : small0 ≤ x) (hhi : x ≤ large) :
    0 ≤ (x - offQ small0 large) * scaleQ R small0 large ∧
    (x - offQ small0 large) * scaleQ R small0 large ≤ R := by
  have hoff := offQ_le small0 large
  have hspan := span_pos hs
  have hsle : scaleQ R small0 large ≤ (R : Rat) / (large - offQ small0 large) := by
    rw [scaleQ_eq]; exact Rat.floor_le _
  refine ⟨mul_nonneg (sub_nonneg.2 (hoff.trans hlo)) hs.le, ?_⟩
  calc (x - offQ small0 large) * scaleQ R small0 large
      ≤ (large - offQ small0 large) * scaleQ R small0 large :=
        mul_le_mul_of_nonneg_right (sub_le_sub_right hhi _) hs.le
    _ ≤ (large - offQ small0 large) * ((R : Rat) / (large - offQ small0 large)) :=
        mul_le_mul_of_nonneg_left hsle hspan.le
    _ = R := by rw [mul_comm, div_mul_cancel₀ _ hspan.ne']

theorem discCell_some {R : Nat} (hR : (R : Int) ≤ I32_MAX) {off sc x : Rat}
    (h0 : 0 ≤ (x - off) * sc) (h1 : (x - off) * sc ≤ R) :
    0 ≤ discCell off sc (some x) ∧ discCell off sc (some x) ≤ R ∧
    discCell off sc (some x) ≠ I32_MIN ∧
    (x - off) * sc - 1 / 2 ≤ ((discCell off sc (some x) : Int) : Rat) ∧
    ((discCell off sc (some x) : Int) : Rat) ≤ (x - off) * sc + 1 / 2 := by
  obtain ⟨hr0, hr1⟩ : (0 : Int) ≤ ratRound ((x - off) * sc) ∧ ratRound ((x - off) * sc) ≤ (R : Int) :=
    ratRound_mem (by rw [Int.cast_zero]; exact h0) (by rw [Int.cast_natCast]; exact h1)
  rw [discCell, roundI32_rat, clampI32_of_mem (le_trans (by decide) hr0) (hr1.trans hR)]
  exact ⟨hr0, hr1, (lt_of_lt_of_le (by decide) hr0).ne', le_ratRound _, ratRound_le _⟩

theorem discCell_none {off sc : Rat} (hs : 0 < sc) : discCell off sc none = I32_MIN := by
  show (if 0 < sc then I32_MIN else if sc < 0 then I32_MAX else 0) = I32_MIN
  rw [if_pos hs]

/-! ### exact score and integer score of a word -/

/-- the span of the finite entries fits the range: every finite cell `x` scales, by `(x − offset)·scale`,
    into `[0, R]` (so it rounds to a table offset in `0 ..= R`, never to the sentinel `i32::MIN`) -/
def CellsOK (R : Nat) (off sc : Rat) (m : List (List (Option Rat))) : Prop :=
  ∀ row ∈ m, ∀ x, some x ∈ row → 0 ≤ (x - off) * sc ∧ (x - off) * sc ≤ R

theorem rscore_cons (row : List (Option Rat)) (rows : List (List (Option Rat))) (a : Nat) (w : List Nat) :
    rscore (row :: rows) (a :: w) =
      match row.getD a none, rscore rows w with
      | some x, some v => some (x + v)
      | _, _ => none := by
  rw [rscore]; rfl

theorem discretize_cons (off sc : Rat) (row : List (Option Rat)) (rest : List (List (Option Rat))) :
    discretize off sc (row :: rest) = row.map (discCell off sc) :: discretize off sc rest := rfl

@[simp] theorem length_discretize (off sc : Rat) (m : List (List (Option Rat))) :
    (discretize off sc m).length = m.length := by simp [discretize]

theorem getD_cell {row : List (Option Rat)} {a : Nat} (ha : a < row.length) (off sc : Rat) :
    row.getD a none ∈ row ∧
      (row.map (discCell off sc)).getD a 0 = discCell off sc (row.getD a none) := by
  rw [List.getD_eq_getElem?_getD, List.getD_eq_getElem?_getD, List.getElem?_map,
    List.getElem?_eq_getElem ha]
  exact ⟨List.getElem_mem ha, rfl⟩

/-- Clause (3), word level: a word scores −∞ in the matrix iff the convolution skips it; otherwise
    its integer score `t` is within `M/2` of the scaled exact score, and `0 ≤ t ≤ M·R`. -/
theorem word_scores {R : Nat} (hR : (R : Int) ≤ I32_MAX) {off sc : Rat} (hs : 0 < sc) :
    ∀ (m : List (List (Option Rat))) (w : List Nat), CellsOK R off sc m → w.length = m.length →
      (∀ row ∈ m, ∀ a ∈ w, a < row.length) →
      (rscore m w = none ∧ dscore (discretize off sc m) w = none) ∨
      ∃ v t, rscore m w = some v ∧ dscore (discretize off sc m) w = some t ∧
        sc * (v - m.length * off) - (m.length : Rat) / 2 ≤ t ∧
        (t : Rat) ≤ sc * (v - m.length * off) + (m.length : Rat) / 2 ∧ t ≤ m.length * R := by
  intro m
  induction m with
  | nil =>
    intro w _ hlen _
    have : w = [] := List.length_eq_zero_iff.mp hlen
    subst this
    right
    exact ⟨0, 0, rfl, rfl, by simp, by simp, Nat.zero_le _⟩
  | cons row rest ih =>
    intro w hcells hlen hcols
    cases w with
    | nil => cases hlen
    | cons a w' =>
      have ha : a < row.length := hcols row List.mem_cons_self a List.mem_cons_self
      obtain ⟨hmem, h2⟩ := getD_cell ha off sc
      have hrest := ih w' (fun r hr x hx => hcells r (List.mem_cons_of_mem _ hr) x hx)
        (by simpa using hlen)
        (fun r hr b hb => hcols r (List.mem_cons_of_mem _ hr) b (List.mem_cons_of_mem _ hb))
      rw [rscore_cons, discretize_cons, dscore_cons, h2]
      generalize row.getD a none = c at hmem ⊢
      cases c with
      | none =>
        left
        refine ⟨rfl, ?_⟩
        rw [if_pos (discCell_none hs)]
      | some x =>
        obtain ⟨hb0, hb1⟩ := hcells row List.mem_cons_self x hmem
        obtain ⟨hc0, hc1, hcm, hcl, hcu⟩ := discCell_some hR hb0 hb1
        rw [if_neg hcm]
        rcases hrest with ⟨hr, hd⟩ | ⟨v, t, hr, hd, hl, hu, ht⟩
        · left
          rw [hr, hd]
          exact ⟨rfl, rfl⟩
        · right
          rw [hr, hd]
          have hcast : (((discCell off sc (some x)).toNat : Nat) : Rat) = ((discCell off sc (some x) : Int) : Rat) := by
            rw [← Int.cast_natCast, Int.toNat_of_nonneg hc0]
          -- the scaled score splits into the rest's and this cell's
          have hsplit : sc * (x + v - (rest.length + 1) * off) =
              sc * (v - rest.length * off) + (x - off) * sc := by ring
          refine ⟨x + v, t + (discCell off sc (some x)).toNat, rfl, rfl, ?_, ?_, ?_⟩
          · rw [List.length_cons, Nat.cast_add_one, hsplit, add_div, add_sub_add_comm, Nat.cast_add, hcast]
            exact add_le_add hl hcl
          · rw [List.length_cons, Nat.cast_add_one, hsplit, add_div, add_add_add_comm, Nat.cast_add, hcast]
            exact add_le_add hu hcu
          · rw [List.length_cons, Nat.add_mul, Nat.one_mul]
            exact Nat.add_le_add ht (Int.toNat_le.2 hc1)

/-! ### `build` establishes `Facts` -/

theorem mem_finiteCells {m : List (List (Option Rat))} {x : Rat} :
    x ∈ finiteCells m ↔ ∃ row ∈ m, some x ∈ row := by
  unfold finiteCells
  simp only [List.mem_filterMap, List.mem_flatten, id]
  constructor
  · rintro ⟨c, ⟨row, hrow, hc⟩, rfl⟩; exact ⟨row, hrow, hc⟩
  · rintro ⟨row, hrow, hc⟩; exact ⟨some x, ⟨row, hrow, hc⟩, rfl⟩

theorem build_some {R : Nat} {syms : List Nat} {bg : List Rat} {m : List (List (Option Rat))}
    {d : Dist Rat} (h : build R syms bg m = some d) :
    ∃ small0 large, minBy (finiteCells m) = some small0 ∧ maxBy (finiteCells m) = some large ∧
      d.scale = scaleQ R small0 large ∧
      d.offset = Scalar.toI32 (offQ small0 large) ∧
      d.rows = m.length ∧
      d.data = discretize (offQ small0 large) (scaleQ R small0 large) m ∧
      (⟨d.sf, d.minScore, d.maxScore⟩ : SfState Rat) =
        sfLoop ((pdfOf R syms bg d.data).size - 1) ⟨clipLast (pdfOf R syms bg d.data), 0, 0⟩ := by
  revert h
  fun_cases build R syms bg m with
  | case1 small0 large hmax hmin =>
    intro h; cases h
    exact ⟨small0, large, hmin, hmax, rfl, rfl, rfl, rfl, rfl⟩
  | case2 => intro h; cases h

theorem toI32_offQ {small0 large : Rat} (h1 : (I32_MIN : Rat) + 1 ≤ small0)
    (h2 : small0 ≤ (I32_MAX : Rat)) :
    ((Scalar.toI32 (offQ small0 large) : Int) : Rat) = offQ small0 large := by
  obtain ⟨hlo, hhi⟩ := adjustSmall_bounds small0 large
  have hfl_lo : I32_MIN ≤ (adjustSmall small0 large).floor :=
    Rat.le_floor_iff.mpr ((le_sub_iff_add_le.2 h1).trans hlo)
  have hfl_hi : (adjustSmall small0 large).floor ≤ I32_MAX :=
    Int.cast_le.1 ((Rat.floor_le _).trans (hhi.trans h2))
  rw [toI32_rat, offQ_eq, ratTrunc_intCast, clampI32_of_mem hfl_lo hfl_hi]

theorem rowOK_discretize {R : Nat} (hR : (R : Int) ≤ I32_MAX) {syms : List Nat} {off sc : Rat}
    (hs : 0 < sc) {m : List (List (Option Rat))} (hcols : ∀ row ∈ m, ∀ a ∈ syms, a < row.length)
    (hcells : CellsOK R off sc m) : ∀ row ∈ discretize off sc m, RowOK R syms row := by
  intro row' hrow' a ha
  obtain ⟨row, hrow, rfl⟩ := List.mem_map.mp hrow'
  obtain ⟨hmem, h2⟩ := getD_cell (hcols row hrow a ha) off sc
  rw [h2]
  generalize row.getD a none = c at hmem ⊢
  cases c with
  | none => exact Or.inl (discCell_none hs)
  | some x =>
    obtain ⟨hb0, hb1⟩ := hcells row hrow x hmem
    exact Or.inr (Int.toNat_le.2 (discCell_some hR hb0 hb1).2.1)

theorem build_facts {R : Nat} {syms : List Nat} {bg : List Rat} {m : List (List (Option Rat))}
    {d : Dist Rat} (hyp : Hyp R syms bg m) (h : build R syms bg m = some d) (hs : 0 < d.scale) :
    Facts R syms bg m d := by
  obtain ⟨small0, large, hmin, hmax, hscale, hoffset, hrows, hdata, hloop⟩ := build_some h
  obtain ⟨hsmem, hsle⟩ := minBy_spec hmin
  obtain ⟨hlmem, hlge⟩ := maxBy_spec hmax
  have hpos : 0 < m.length := by
    obtain ⟨row, hrow, _⟩ := mem_finiteCells.mp hsmem
    exact List.length_pos_of_mem hrow
  have hRi : (R : Int) ≤ I32_MAX :=
    le_trans (Int.ofNat_le.2 ((Nat.le_mul_of_pos_left R hpos).trans (Nat.le_succ _))) hyp.i32_size
  have hoffR : (d.offset : Rat) = offQ small0 large := by
    rw [hoffset]; exact toI32_offQ (hyp.i32_cells small0 hsmem).1 (hyp.i32_cells small0 hsmem).2
  have hdata' : d.data = discretize (d.offset : Rat) d.scale m := by rw [hdata, hoffR, hscale]
  have hcells : CellsOK R (d.offset : Rat) d.scale m := by
    intro row hrow x hx
    have hxmem : x ∈ finiteCells m := mem_finiteCells.mpr ⟨row, hrow, hx⟩
    rw [hoffR, hscale]
    exact scaled_cell_bounds (hscale ▸ hs) (hsle x hxmem) (hlge x hxmem)
  have hword := fun w (hw : w ∈ words syms m.length) =>
    word_scores hRi hs m w hcells (mem_words hw).1
      (fun row hrow a ha => hyp.cols row hrow a ((mem_words hw).2 a ha))
  rw [← hdata'] at hword
  have hwb : WordBound R syms m.length d.data := by
    intro w hw t ht
    rcases hword w hw with ⟨-, hd⟩ | ⟨v, t', -, hd, -, -, hb⟩
    · rw [hd] at ht; cases ht
    · rw [hd] at ht; cases ht; exact hb
  have hlen : d.data.length = m.length := by rw [hdata']; simp
  obtain ⟨hpsz, hpval⟩ := pdfOf_spec R syms bg d.data
    (hdata' ▸ rowOK_discretize hRi hs hyp.cols hcells)
  rw [hlen] at hpsz
  have hpdf : ∀ j, vget (pdfOf R syms bg d.data) j = prob syms bg m.length (dEq d.data j) := by
    intro j; rw [hpval j, specQ_delta0, hlen]
  have hfin := sfLoop_clip (fun j => prob_nonneg hyp.bg_nonneg _ _)
    (fun j => prob_dGe_succ syms bg m.length d.data j)
    (fun j => prob_le_one hyp.bg_nonneg hyp.bg_sum _ _)
    (fun j => prob_nonneg hyp.bg_nonneg _ _) hpsz hpdf
    (prob_dGe_of_large hwb (Int.ofNat_lt.2 (Nat.lt_succ_self _)))
  rw [hpsz, Nat.add_sub_cancel] at hloop
  rw [← hloop] at hfin
  exact {
    hyp := hyp, scale_pos := hs, rows := hrows, size := hfin.sz, pdf := hpdf, wordBound := hwb,
    loop := hfin
    word := fun w hw => (hword w hw).imp_right
      fun ⟨v, t, hr, hd, hl, hu, _⟩ => ⟨v, t, hr, hd, hl, hu⟩ }


end LMV.Dist
