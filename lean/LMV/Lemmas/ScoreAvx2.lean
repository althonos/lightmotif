/-
  LMV.Lemmas.ScoreAvx2 — the AVX2 scoring kernels, lane by lane.

  For the two `f32` kernels the composite
      shuffle mask m_q → dword index lane → table look-up → accumulator lane → `permute2f128`
      immediate → store offset
  is the IDENTITY ON COLUMNS: `IdentityTable T` is a finite statement about the tables regenerated
  from avx2.rs (32 columns), evaluated by the kernel (`decide +kernel`), and lifted here to the
  executed model over any carrier.  A changed mask byte, immediate or store offset changes the
  regenerated table and the evaluation no longer yields `true`.
-/
import LMV.Lemmas.Score

namespace LMV
namespace Score
namespace Avx2

open Isa
open Mat (Patch)

variable {α : Type} {K : Nat}

/-! ### the index table of one `f32` kernel -/

/-- the column of the loaded sequence row that lane `l` of the index vector of accumulator `q`
    holds: defined when the lane's four mask bytes are (plain byte `c`, zeroed, zeroed, zeroed) -/
def accCol (T : F32Tables) (q l : Nat) : Option Nat :=
  match shuffleEpi8Src (maskByte T q) (4 * l), shuffleEpi8Src (maskByte T q) (4 * l + 1),
        shuffleEpi8Src (maskByte T q) (4 * l + 2), shuffleEpi8Src (maskByte T q) (4 * l + 3) with
  | some c, none, none, none => some c
  | _, _, _, _ => none

/-- the accumulator lane that lane `l` of `r_p` is a copy of -/
def laneSrc (T : F32Tables) (p l : Nat) : Option (Nat × Nat) :=
  match T.lanes.getD p (0, 0, 0) with
  | (a, b, imm) =>
    match permute2f128 imm l with
    | (Side.a, k) => some (a, k)
    | (Side.b, k) => some (b, k)
    | (Side.zero, _) => none

/-- for result column `c`: (accumulator, lane, column of the sequence row indexing the look-up) -/
def colSrc (T : F32Tables) (c : Nat) : Option (Nat × Nat × Nat) :=
  match lastStore 8 T.stores c with
  | none => none
  | some (p, l) =>
    match laneSrc T p l with
    | none => none
    | some (q, k) => if q < 4 ∧ k < 8 then (accCol T q k).map fun c' => (q, k, c') else none

/-- the complete table: every one of the 32 result columns is written, and what is written there
    was looked up with the symbol of the SAME column -/
def IdentityTable (T : F32Tables) : Prop :=
  ∀ c, c < 32 → (colSrc T c).map (fun x => x.2.2) = some c

instance (T : F32Tables) : Decidable (IdentityTable T) := by unfold IdentityTable; infer_instance

theorem permute_table : IdentityTable permuteTables := by decide +kernel

theorem gather_table : IdentityTable gatherTables := by decide +kernel

/-! ### from the table to the lanes of the kernel -/

theorem idxVec_of_accCol (T : F32Tables) (q l c : Nat) (h : accCol T q l = some c) (x : Nat → Nat) :
    idxVec T x q l = x c := by
  revert h
  fun_cases accCol T q l with
  | case1 _ h0 h1 h2 h3 =>
    intro h; cases h
    apply dwordLE_single <;> simp only [shuffleEpi8, h0, h1, h2, h3]
  | case2 => nofun

theorem laneVal_of_laneSrc (T : F32Tables) (zero : α) (s : Array (Array α)) (p l q k : Nat)
    (h : laneSrc T p l = some (q, k)) : laneVal T zero s p l = rd zero s q k := by
  revert h
  fun_cases laneSrc T p l with
  | case1 _ _ _ h1 _ h2 | case2 _ _ _ h1 _ h2 =>
    -- `permute2f128` takes the lane from operand `a`, or from operand `b`
    intro h; cases h
    simp only [laneVal, Isa.apply, h1, h2]
  | case3 => nofun

theorem colSrc_spec (T : F32Tables) (hT : IdentityTable T) (c : Nat) (hc : c < 32) :
    ∃ p l q k, lastStore 8 T.stores c = some (p, l) ∧ laneSrc T p l = some (q, k) ∧ q < 4 ∧ k < 8 ∧
      accCol T q k = some c := by
  specialize hT c hc
  revert hT
  fun_cases colSrc T c with
  | case3 p l h1 q k h2 h3 =>
    -- the one exit that is not `none`: a last store `(p, l)`, its lane source `(q, k)`, both in range
    rw [Option.map_map]
    intro h
    obtain ⟨c', h4, rfl⟩ := Option.map_eq_some_iff.mp h
    exact ⟨p, l, q, k, h1, h2, h3.1, h3.2, h4⟩
  | _ => nofun

/-- the loop over the register file seen from one lane: `List.foldl_hom` along the projection (the
    same idiom serves `accRowU8_getD` and the SSE2 `accRow_rd`) -/
theorem accRow_rd (T : F32Tables) (zero : α) (add : α → α → α)
    (lookup : Nat → (Nat → Nat) → Nat → α) (M : Nat) (seq : Mat Nat 32) (i q l : Nat)
    (hq : q < 4) (hl : l < 8) :
    rd zero (accRow T zero add lookup M seq i) q l =
      (List.range M).foldl (fun v j =>
        add v (lookup j (idxVec T (fun c => seq.getD (i + j) c 0) q) l)) zero := by
  refine (List.foldl_hom (fun s => rd zero s q l)
    (g₂ := fun v j => add v (lookup j (idxVec T (fun c => seq.getD (i + j) c 0) q) l))
    fun s j => by rw [rd_tab zero 4 8 _ q l hq hl]).symm.trans ?_
  rw [rd_tab zero 4 8 _ q l hq hl]

/-- **an `f32` kernel whose look-up returns the PSSM entry for every in-alphabet symbol fills the
    rows of the scan**, like the generic loops -/
theorem kernel_patch (T : F32Tables) (hT : IdentityTable T) (zero : α) (add : α → α → α)
    (pssm : Mat α K) (lookup : Nat → (Nat → Nat) → Nat → α) (val : Nat → Nat → α)
    (hlook : ∀ j idx l, lookup j idx l = val j (idx l))
    (hval : ∀ j sym, sym < K → val j sym = pssm.getD j sym zero)
    (seq : Mat Nat 32) (a n : Nat) (d : Mat α 32)
    (hsym : ∀ k j col, k < n → j < pssm.rows → col < 32 → seq.getD (a + k + j) col 0 < K) :
    Patch d (kernel T zero add lookup pssm.rows seq a n d) (fun r _ => r < n)
      (scanCell zero add pssm seq a) := by
  refine Patch.rowLoop _ d n fun k hk d' => ?_
  have key := stores_patch 8 k 0 T.stores
    (laneVal T zero (accRow T zero add lookup pssm.rows seq (a + k)))
    (fun _ => True) (scanCell zero add pssm seq a k) d'
  simp only [Nat.zero_add] at key
  refine Patch.congr (fun _ _ _ _ => ⟨fun h => ⟨h, trivial⟩, And.left⟩)
    (Patch.vals (fun r c _ _ h => by rw [h.1]) (key (fun c hc _ => ?_) fun _ _ h => (h trivial).elim))
  -- every column is stored, last by the lane that looked up the symbol of the same column
  obtain ⟨p, l, q, k', hstore, hlane, hq, hk', hcol⟩ := colSrc_spec T hT c hc
  refine ⟨p, l, Nat.zero_le c, hstore, ?_⟩
  rw [laneVal_of_laneSrc T zero _ p l q k' hlane, accRow_rd T zero add lookup _ seq _ q k' hq hk']
  apply foldl_ext_mem
  intro v j hj
  rw [hlook, idxVec_of_accCol T q k' c hcol, hval j _ (hsym k j c hk (List.mem_range.mp hj) hc)]

/-! ### the `u8` kernel: every lane, directly -/

theorem shuffle_broadcast (zero : α) (row : Nat → α) (x : Nat → Nat) (c : Nat) (hx : x c < 16) :
    shuffleEpi8 zero (broadcastsi128 row) x c = row (x c) := by
  unfold shuffleEpi8 shuffleEpi8Src broadcastsi128
  -- a symbol `< 16` has bit 7 clear, and is its own low nibble
  rw [Nat.mod_eq_of_lt (Nat.lt_trans hx (by decide)), Nat.div_eq_of_lt (Nat.lt_trans hx (by decide)),
    if_neg (by decide)]
  simp only
  rw [Nat.mul_add_mod, Nat.mod_mod, Nat.mod_eq_of_lt hx]

theorem accRowU8_getD (zero : α) (add : α → α → α) (pssm : Mat α K) (seq : Mat Nat 32) (i c : Nat)
    (hc : c < 32) :
    (accRowU8 zero add pssm seq i).getD c zero =
      (List.range pssm.rows).foldl (fun v j =>
        add v (shuffleEpi8 zero (broadcastsi128 fun k => pssm.getD j k zero)
          (fun c => seq.getD (i + j) c 0) c)) zero := by
  refine (List.foldl_hom (fun (s : Array α) => s.getD c zero)
    (g₂ := fun v j => add v (shuffleEpi8 zero (broadcastsi128 fun k => pssm.getD j k zero)
      (fun c => seq.getD (i + j) c 0) c))
    fun s j => by rw [tab_getD 32 _ c zero hc]).symm.trans ?_
  rw [tab_getD 32 _ c zero hc]

theorem kernelU8_patch (zero : α) (add : α → α → α) (pssm : Mat α K) (hK : K ≤ 16)
    (seq : Mat Nat 32) (a n : Nat) (d : Mat α 32)
    (hsym : ∀ k j col, k < n → j < pssm.rows → col < 32 → seq.getD (a + k + j) col 0 < K) :
    Patch d (kernelU8 zero add pssm seq a n d) (fun r _ => r < n) (scanCell zero add pssm seq a) := by
  unfold kernelU8
  simp only [show Gen.Avx2Score.u8StoreOffset = 0 from rfl, Nat.zero_add]
  refine Patch.rowLoop _ d n fun k hk d' => Patch.row d' k _ fun c hc => ?_
  rw [accRowU8_getD zero add pssm seq (a + k) c hc]
  apply foldl_ext_mem
  intro v j hj
  rw [shuffle_broadcast zero _ _ c (Nat.lt_of_lt_of_le (hsym k j c hk (List.mem_range.mp hj) hc) hK)]

end Avx2
end Score
end LMV
