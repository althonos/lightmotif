/-
  LMV.Lemmas.Mem — offsets inside the rows of a `DenseMatrix`, and how the accesses of a class of
  extracted intrinsic calls sit in a window of a buffer (helper lemmas of C06; `Safe` along the list
  structure of an access model is in LMV/Mem/Access.lean).
-/
import LMV.Mem.Kernels
import LMV.Lemmas.Dense

namespace LMV
namespace Mem

/-! ### the calls of a table: those the model places, and the rest -/

theorem Safe_unhandled {tbl : List MemCall} {classes : List (String × Nat)} (sz : Sizes)
    (h : handled tbl classes = true) : Safe sz (unhandled tbl classes) := by
  unfold unhandled; rw [if_pos h]; exact Safe_nil sz

theorem mem_place {tbl : List MemCall} {ptr : String} {depth K : Nat} {buf : Buf} {base esz : Nat}
    {a : Access} (h : a ∈ place tbl ptr depth K buf base esz) :
    ∃ c ∈ sel tbl ptr depth, a ∈ c.accesses K buf base esz :=
  List.mem_flatMap.mp h

/-! ### rows of a `DenseMatrix` (C19 layout, `align(32)`) -/

theorem rowB_mod (C size : Nat) : rowB C size % 32 = 0 :=
  Nat.mod_eq_zero_of_dvd (Dense.rowBytes_dvd C size 32)

theorem row_mod (j C size : Nat) : (j * rowB C size) % 32 = 0 :=
  Nat.mod_eq_zero_of_dvd (Nat.dvd_mul_left_of_dvd (Dense.rowBytes_dvd C size 32) j)

theorem add_mod_eq_zero (base x al0 al : Nat) (hb : base % al0 = 0) (ha : al0 % al = 0) (hx : x % al = 0) :
    (base + x) % al = 0 := by
  have h1 : al ∣ al0 := Nat.dvd_of_mod_eq_zero ha
  have h2 : al0 ∣ base := Nat.dvd_of_mod_eq_zero hb
  have h3 : al ∣ x := Nat.dvd_of_mod_eq_zero hx
  exact Nat.mod_eq_zero_of_dvd (Nat.dvd_add (Nat.dvd_trans h1 h2) h3)

theorem row_off_mod (j C size o al : Nat) (hal : 32 % al = 0) (ho : o % al = 0) :
    (j * rowB C size + o) % al = 0 :=
  add_mod_eq_zero _ o 32 al (row_mod j C size) hal ho

theorem rowB_ge (C size : Nat) : C * size ≤ rowB C size :=
  Dense.rowBytes_ge C size 32 (by decide)

theorem rowB_ge_32 (C size : Nat) (h : 0 < C * size) : 32 ≤ rowB C size :=
  Nat.le_of_dvd (Nat.lt_of_lt_of_le h (rowB_ge C size)) (Dense.rowBytes_dvd C size 32)

/-- one pass of the SSE2 kernels (16 columns of elements of `size` bytes) lies inside `C` columns -/
theorem pass_le {q C size : Nat} (hq : q < C / 16) : q * 16 * size + 16 * size ≤ C * size := by
  rw [← Nat.add_mul, ← Nat.succ_mul]
  exact Nat.mul_le_mul_right size (Nat.mul_le_of_le_div 16 (q + 1) C hq)

theorem pass_fits {q C size : Nat} (hq : q < C / 16) : q * 16 * size + 16 * size ≤ rowB C size :=
  Nat.le_trans (pass_le hq) (rowB_ge C size)

theorem pass_mod (q size : Nat) : (q * 16 * size) % 16 = 0 :=
  Nat.mod_eq_zero_of_dvd (Nat.dvd_mul_right_of_dvd (Nat.dvd_mul_left 16 q) size)

/-! ### windows -/

theorem add_fits {base o w room : Nat} (h : o + w ≤ room) : base + o + w ≤ base + room :=
  Nat.add_assoc base o w ▸ Nat.add_le_add_left h base

/-- what the kernel theorems need to know about a class of calls: placed at any `base` that is a
    multiple of `al0`, with `room` bytes available from `base`, every access stays in
    `[base, base + room)` of the buffer it was placed in and is aligned -/
def Window (cs : List MemCall) (K esz room al0 : Nat) : Prop :=
  ∀ c ∈ cs, ∀ (buf : Buf) (base : Nat), base % al0 = 0 →
    ∀ a ∈ c.accesses K buf base esz,
      a.buf = buf ∧ a.off + a.width ≤ base + room ∧ 0 < a.align ∧ a.off % a.align = 0

/-- a class of calls placed at an aligned `base` with its window inside the buffer is safe: the
    kernel theorems of C06 are the list structure of their loop nests (`Safe_append`,
    `Safe_flatMap`) with this at the leaves -/
theorem Window.safe {tbl : List MemCall} {ptr : String} {depth K esz room al0 : Nat}
    (hw : Window (sel tbl ptr depth) K esz room al0) {sz : Sizes} {buf : Buf} {base : Nat}
    (hb : base % al0 = 0) (hroom : base + room ≤ sz buf) :
    Safe sz (place tbl ptr depth K buf base esz) := by
  intro a ha
  obtain ⟨c, hc, ha⟩ := mem_place ha
  obtain ⟨h1, h2, h3, h4⟩ := hw c hc buf base hb a ha
  exact ⟨by rw [h1]; exact Nat.le_trans h2 hroom, h3, h4⟩

/-- a window at column offset `o` inside row `j` of `n` rows of pitch `rb` (the SSE2 passes) -/
theorem Window.safe_at {tbl : List MemCall} {ptr : String} {depth K esz room al0 : Nat}
    (hw : Window (sel tbl ptr depth) K esz room al0) {sz : Sizes} {buf : Buf} {j n rb o : Nat}
    (hj : j < n) (hfit : o + room ≤ rb) (hsz : sz buf = n * rb) (hb : (j * rb + o) % al0 = 0) :
    Safe sz (place tbl ptr depth K buf (j * rb + o) esz) :=
  hw.safe hb (by rw [hsz, Nat.add_assoc]; exact pos_add_le hj hfit)

/-- a window that is the whole row `j`: the case `o = 0`, stated apart because the model writes
    `j * rb`, which is not syntactically `j * rb + 0` -/
theorem Window.safe_row {tbl : List MemCall} {ptr : String} {depth K esz rb al0 : Nat}
    (hw : Window (sel tbl ptr depth) K esz rb al0) {sz : Sizes} {buf : Buf} {j n : Nat}
    (hj : j < n) (hsz : sz buf = n * rb) (hb : (j * rb) % al0 = 0) :
    Safe sz (place tbl ptr depth K buf (j * rb) esz) :=
  hw.safe hb (by rw [hsz]; exact pos_add_le hj (Nat.le_refl rb))

theorem Window.mono {cs : List MemCall} {K esz room room' al0 : Nat} (h : Window cs K esz room al0)
    (hr : room ≤ room') : Window cs K esz room' al0 := by
  intro c hc buf base hb a ha
  obtain ⟨h1, h2, h3, h4⟩ := h c hc buf base hb a ha
  exact ⟨h1, Nat.le_trans h2 (Nat.add_le_add_left hr base), h3, h4⟩

/-- decidable sufficient condition for a class of plain calls (no gather, no symbolic offset) -/
def fitsPlain (cs : List MemCall) (esz room al0 : Nat) : Bool :=
  cs.all fun c =>
    c.intr != "_mm256_i32gather_ps" && c.sym == "" &&
    match intrinsic c.intr with
    | some (w, al, _) => decide (c.off * esz + w ≤ room) && decide (0 < al) && decide (al0 % al = 0) &&
        decide ((c.off * esz) % al = 0)
    | none => false

theorem Window.ofFits {cs : List MemCall} {K esz room al0 : Nat}
    (h : fitsPlain cs esz room al0 = true) : Window cs K esz room al0 := by
  intro c hc buf base hbase a ha
  have hcall := List.all_eq_true.mp h c hc
  simp only [Bool.and_eq_true, bne_iff_ne, ne_eq, beq_iff_eq] at hcall
  obtain ⟨⟨hng, hsym⟩, hm⟩ := hcall
  unfold MemCall.accesses at ha
  rw [if_neg hng, if_pos hsym] at ha
  rw [List.mem_singleton.mp ha]
  unfold MemCall.access
  cases hi : intrinsic c.intr with
  | none => rw [hi] at hm; exact absurd hm (by simp)
  | some t =>
    obtain ⟨w, al, rw'⟩ := t
    rw [hi] at hm
    simp only [Bool.and_eq_true, decide_eq_true_eq] at hm
    obtain ⟨⟨⟨h1, h2⟩, h3⟩, h4⟩ := hm
    exact ⟨rfl, add_fits h1, h2, add_mod_eq_zero base _ al0 al hbase h3 h4⟩

/-- the gather reads 4 bytes at `base + 4·x`, `x < K`: inside `4·K` bytes, no alignment required -/
theorem Window.ofGather {cs : List MemCall} {K esz al0 : Nat}
    (h : cs.all (fun c => c.intr == "_mm256_i32gather_ps") = true) : Window cs K esz (K * 4) al0 := by
  intro c hc buf base _ a ha
  have hg : c.intr = "_mm256_i32gather_ps" := eq_of_beq (List.all_eq_true.mp h c hc)
  unfold MemCall.accesses at ha
  rw [if_pos hg] at ha
  simp only [List.mem_map, List.mem_range] at ha
  obtain ⟨x, hx, rfl⟩ := ha
  exact ⟨rfl, add_fits (pos_add_le hx (Nat.le_refl 4)), Nat.one_pos, Nat.mod_one _⟩

/-- a 4-byte load with a symbolic element offset `k < K` through a pointer to 4-byte elements:
    inside `4·K` bytes, 4-aligned when the base is -/
theorem Window.ofSym {cs : List MemCall} {K al0 : Nat} (hal : al0 % 4 = 0)
    (h : cs.all (fun c => c.intr == "_mm_load1_ps" && c.sym != "") = true) : Window cs K 4 (K * 4) al0 := by
  intro c hc buf base hb a ha
  have hcall := List.all_eq_true.mp h c hc
  simp only [Bool.and_eq_true, beq_iff_eq, bne_iff_ne, ne_eq] at hcall
  obtain ⟨hi, hs⟩ := hcall
  -- `simp` compares string literals far more cheaply than the kernel evaluates `String.decEq`
  have hint : intrinsic c.intr = some (4, 4, Rw.read) := by rw [hi]; unfold intrinsic; simp
  unfold MemCall.accesses at ha
  rw [if_neg (by simp [hi]), if_neg hs] at ha
  simp only [List.mem_map, List.mem_range] at ha
  obtain ⟨x, hx, rfl⟩ := ha
  unfold MemCall.access
  rw [hint]
  exact ⟨rfl, add_fits (pos_add_le hx (Nat.le_refl 4)), Nat.zero_lt_succ 3,
    add_mod_eq_zero base _ al0 4 hb hal (Nat.mul_mod_left x 4)⟩

end Mem
end LMV
