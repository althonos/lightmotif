/-
  LMV.Lemmas.Transfac — the TRANSFAC line parsers eat their input (`Eats`), so each iteration of the
  two guarded loops consumes input (the guards in `referenceLoop` / `recordLoop` are dead code) and
  `parse_record` never reaches a panic site; the reader keeps its slicing offset on a line start,
  never panics, and a successful `next` strictly decreases `|stream| + |buffer|`.  Core Lean only.
-/
import LMV.Model.Transfac
import LMV.Lemmas.Build
import LMV.Lemmas.Utf8

namespace LMV
namespace Transfac

open Io Nom

variable {α : Type}

/-! ### parsers -/

theorem eats_parseLine : Eats 1 parseLine := fun i => by
  fun_cases parseLine i
  case case1 hc =>
    obtain ⟨p, hp⟩ := through_of_mem 0x0A i (List.contains_iff_mem.mp hc)
    have h1 : 1 ≤ (through 0x0A i).length := by rw [hp, List.length_append]; exact Nat.le_add_left ..
    have h2 : (after 0x0A i).length + (through 0x0A i).length = i.length :=
      (Nat.add_comm ..).trans (length_through_add_after 0x0A i)
    exact Nat.le_trans (Nat.add_le_add_left h1 _) (Nat.le_of_eq h2)
  case case2 => trivial

theorem eats_tagLine (a b : UInt8) : Eats 3 (tagLine a b) := (eats_tag (t a b)).preceded eats_parseLine

theorem eats_parseAlphabetWith {sp : Parser Bytes} {k : Nat} (hsp : Eats k sp) (A : Alphabet) :
    Eats 2 (parseAlphabetWith sp A) :=
  (((eats_tag (t 0x50 0x4F)).alt (eats_tag (t 0x50 0x30))).delimited
    (hsp.preceded (hsp.sepList1 (eats_symbol A))) eats_lineEnding).mono (Nat.le_add_right ..)

theorem parseAlphabetWith_lt {sp : Parser Bytes} {A : Alphabet} (hA : A.IndexOK) {i r : Bytes}
    {syms : List Nat} (h : parseAlphabetWith sp A i = .ok r syms) : ∀ s ∈ syms, s < A.K := by
  obtain ⟨r1, r2, _, _, _, h2, _⟩ := delimited_ok h
  obtain ⟨r3, _, _, h4⟩ := preceded_ok h2
  exact sepList1_mem (fun s => s < A.K) (fun _ _ _ hs => symbol_lt hA hs) h4

theorem eats_parseRow (conv : Bytes → Option α) (k : Nat) : Eats 2 (parseRow conv k) :=
  (eats_uint _).delimited ((eats_space0.delimited (eats_float conv) eats_space0).count k) eats_parseLine

theorem strict_parseRow (conv : Bytes → Option α) (k : Nat) : Strict (parseRow conv k) :=
  (eats_parseRow conv k).strict

theorem parseRow_length (conv : Bytes → Option α) (k : Nat) {i r : Bytes} {vs : List α}
    (h : parseRow conv k i = .ok r vs) : vs.length = k := by
  obtain ⟨r1, r2, _, _, _, h3, _⟩ := delimited_ok h
  exact count_length _ _ _ _ _ h3

theorem eats_parseTag : Eats 2 parseTag := fun i => by
  have := eats_takeChars 2 i
  unfold parseTag
  generalize takeChars 2 i = p at this ⊢
  cases p with
  | ok r v => simp only; split <;> first | exact this | trivial
  | _ => exact this

theorem parseTag_known {i r tg : Bytes} (h : parseTag i = .ok r tg) : tg ∈ knownTags := by
  revert h
  fun_cases parseTag i
  case case1 hk => intro h; cases h; exact List.contains_iff_mem.mp hk
  case case2 => exact nofun
  case case3 hn => exact fun h => (hn _ _ h).elim

theorem eats_parseReferenceNumber : Eats 1 parseReferenceNumber := fun i => by
  have e1 := ((eats_tag (t 0x52 0x4E)).terminated eats_space0).preceded
    ((eats_char 0x5B).delimited (eats_uint 4294967296) (eats_char 0x5D))
  have e2 := (eats_char 0x3B).delimited (eats_takeTill (· = 0x2E)) (eats_char 0x2E)
  fun_cases parseReferenceNumber i
  -- `RN [n]` (`hr`) is followed by `;`.  The `match` on the `;` part (`e2`) is still in the goal; by
  -- `hq` that part leaves `rest'`, from where the line is taken
  case case1 rest' _ hr hq =>
    rw [hq]
    have hle : rest'.length ≤ i.length :=
      Nat.le_trans (Nat.le_of_add_right_le (e2.le hq)) (Nat.le_of_add_right_le (e1.le hr))
    exact ((eats_parseLine rest').map _).of_le hle
  case case2 hq | case3 hq => rw [hq]; trivial
  case case4 hq => exact absurd hq (e2.noInc _)
  -- no `;`: the line is taken from `i`
  case case5 => exact (eats_parseLine i).map _
  case case8 hh => exact e1.noInc i hh
  all_goals trivial

theorem eats_parseDatekind : Eats 7 parseDatekind := (eats_tag _).alt (eats_tag _)

theorem eats_parseDate : Eats 2 parseDate :=
  ((((eats_tag (t 0x44 0x54)).terminated eats_space0).pair
    (((eats_uint _).terminated (eats_char _)).pair
      (((eats_uint _).terminated (eats_char _)).pair
        ((eats_uint _).pair
          (eats_space0.pair
            (((eats_char _).delimited eats_parseDatekind (eats_char _)).pair
              (((eats_char _).delimited (eats_space0.preceded (eats_takeTill _)) (eats_char _)).pair
                eats_parseLine))))))).pmap _).mono (Nat.le_add_right ..)

def RefOK (i : Bytes) : PRes (Option Unit) → Prop
  | .ok r (some _) => r.length < i.length
  | .ok r none => r = i
  | .incomplete => False
  | _ => True

theorem RefOK.of_ate {β : Type} {i : Bytes} {q : PRes β} (h : Ate 1 i q) :
    RefOK i (q.map fun _ => some ()) := by
  cases q <;> exact h

theorem referenceLine_ok (i : Bytes) : RefOK i (referenceLine i) := by
  have hrx := ((((eats_tag (t 0x52 0x58)).terminated eats_space0).preceded
      ((eats_tag [0x50, 0x55, 0x42, 0x4D, 0x45, 0x44, 0x3A]).terminated eats_space0)).preceded
    ((eats_takeTill (· = 0x2E)).terminated (eats_char 0x2E))).good
  fun_cases referenceLine i
  -- an `RX` line: its first part (`hrx`) leaves `rest`, from where the line is taken
  case case1 rest _ hr _ => exact .of_ate ((eats_parseLine rest).of_le (hrx.le _ _ _ hr))
  case case4 hh _ => exact hrx.noInc i hh
  -- an `RA`, `RL` or `RT` line
  case case5 tg _ _ _ => exact .of_ate (((eats_tag tg).preceded eats_parseLine).mono (Nat.le_add_left ..) i)
  -- any other tag ends the reference, and nothing is consumed
  case case6 => rfl
  case case9 hh => exact (eats_takeChars 2).noInc i hh
  all_goals trivial

theorem ate_referenceLoop (i : Bytes) : Ate 0 i (referenceLoop i) := by
  fun_induction referenceLoop i
  case case1 h ih => exact ih.of_le (Nat.le_of_lt h)
  -- the reference ends: `referenceLine` has consumed nothing
  case case3 i rest hr =>
    have h := referenceLine_ok i
    rw [hr] at h
    exact Nat.le_of_eq (congrArg List.length h)
  case case6 i hr => have h := referenceLine_ok i; rwa [hr] at h
  all_goals trivial

/-- so the guard of `referenceLoop` is dead code -/
theorem referenceLine_lt (i r : Bytes) (h : referenceLine i = .ok r (some ())) :
    r.length < i.length := by
  have := referenceLine_ok i
  rwa [h] at this

theorem eats_parseReference : Eats 1 parseReference := fun i => by
  have h := eats_parseReferenceNumber i
  fun_cases parseReference i
  case case1 rest _ hr =>
    rw [hr] at h
    exact (ate_referenceLoop rest).weaken (by rw [Nat.zero_add, Nat.add_comm]; exact h)
  case case4 hh => rwa [hh] at h
  all_goals trivial

/-! ### the record loop -/

theorem fillRow_some {K : Nat} (i : Nat) (symbols : List Nat) (hs : ∀ s ∈ symbols, s < K)
    (row : List α) (m : Mat α K) (hi : i < m.rows) :
    ∃ m', fillRow m i symbols row = some m' ∧ m'.rows = m.rows := by
  fun_induction fillRow m i symbols row with
  | case1 m s ss c cs _ ih =>
    obtain ⟨m', h1, h2⟩ := ih (fun s' h' => hs s' (List.mem_cons_of_mem _ h')) (by rwa [Mat.rows_set])
    exact ⟨m', h1, h2.trans (Mat.rows_set ..)⟩
  | case2 m s ss c cs hc => exact absurd ⟨hi, hs s List.mem_cons_self⟩ hc
  | case3 t m x => exact ⟨m, rfl, rfl⟩

theorem fillRows_some {K : Nat} (symbols : List Nat) (hs : ∀ s ∈ symbols, s < K)
    (rows : List (List α)) :
    ∀ (m : Mat α K) (i : Nat), i + rows.length ≤ m.rows → ∃ m', fillRows m symbols i rows = some m' := by
  induction rows with
  | nil => intro m i _; exact ⟨m, rfl⟩
  | cons r rs ih =>
    intro m i h
    rw [List.length_cons, ← Nat.add_assoc, Nat.add_right_comm] at h
    obtain ⟨m', h1, h2⟩ := fillRow_some i symbols hs r m (Nat.le_trans (Nat.le_add_right ..) h)
    simp only [fillRows, h1]
    exact ih m' (i + 1) (h2 ▸ h)

/-- `P` is what a panic site would need; it is `¬ A.IndexOK` below, so that the lengths, which do not
    depend on the alphabet tables, come without `A.IndexOK` -/
def StepOK {K : Nat} (P : Prop) (i : Bytes) : Step α K → Prop
  | .continue rest _ => rest.length < i.length
  | .finish rest _ => rest.length ≤ i.length
  | .error e => e ≠ .incomplete
  | .panic _ => P

theorem stepOK_stepOf {β : Type} {K : Nat} {P : Prop} {i : Bytes} {p : PRes β} (hp : p ≠ .incomplete)
    {f : Bytes → β → Step α K} (hf : ∀ rest v, p = .ok rest v → StepOK P i (f rest v)) :
    StepOK P i (stepOf K p f) := by
  unfold stepOf
  cases p with
  | ok rest v => exact hf rest v rfl
  | incomplete => exact absurd rfl hp
  | _ => simp [StepOK]

theorem StepOK.ite {K : Nat} {P : Prop} {i : Bytes} {c : Prop} [Decidable c] {x y : Step α K}
    (hx : c → StepOK P i x) (hy : ¬ c → StepOK P i y) : StepOK P i (if c then x else y) := by
  split
  · exact hx ‹_›
  · exact hy ‹_›

theorem stepOK_continue {β : Type} {K : Nat} {P : Prop} {p : Parser β} (hp : Eats 1 p) (i : Bytes)
    (g : β → TRecord α K) : StepOK P i (stepOf K (p i) fun rest v => .continue rest (g v)) :=
  stepOK_stepOf (hp.noInc i) fun _ _ h => hp.le h

/-- never `Incomplete` relies on the library's fix (`space1` in its complete form).  The arms below
    are in the order of `recordStep`'s chain of `if`s:
    AC BA BS BF CC CO DE DT ID NA P0|PO RN // XX. -/
theorem recordStep_ok (A : Alphabet) (conv : Bytes → Option α) (zero : α)
    (r : TRecord α A.K) (i : Bytes) : StepOK (¬ A.IndexOK) i (recordStep A conv zero space1 r i) := by
  refine stepOK_stepOf (eats_parseTag.noInc i) fun _ tg htag => ?_
  have hknown := parseTag_known htag
  have line : ∀ (a b : UInt8) (g : Bytes → TRecord α A.K),
      StepOK (¬ A.IndexOK) i (stepOf A.K (tagLine a b i) fun rest l => .continue rest (g l)) :=
    fun a b g => stepOK_continue ((eats_tagLine a b).mono (by decide)) i g
  refine .ite (fun _ => line _ _ _) fun h1 => ?_
  refine .ite (fun _ => line _ _ fun _ => r) fun h2 => ?_
  refine .ite (fun _ => line _ _ fun _ => r) fun h3 => ?_
  refine .ite (fun _ => line _ _ fun _ => r) fun h4 => ?_
  refine .ite (fun _ => stepOK_continue ((eats_tagLine _ _).many1.mono (by decide)) i fun _ => r) fun h5 => ?_
  refine .ite (fun _ => line _ _ fun _ => r) fun h6 => ?_
  refine .ite (fun _ => line _ _ _) fun h7 => ?_
  refine .ite (fun _ => stepOK_continue (eats_parseDate.mono (by decide)) i fun _ => r) fun h8 => ?_
  refine .ite (fun _ => line _ _ _) fun h9 => ?_
  refine .ite (fun _ => line _ _ _) fun h10 => ?_
  refine .ite (fun _ => ?_) fun h11 => ?_
  · refine stepOK_stepOf ((eats_parseAlphabetWith eats_space1 A).noInc i) fun rest symbols hsy => ?_
    have hle := (eats_parseAlphabetWith eats_space1 A).good.le _ _ _ hsy
    refine stepOK_stepOf ((eats_parseRow conv symbols.length).many1.noInc rest) fun rest' counts hc => ?_
    have hlt := (eats_parseRow conv symbols.length).many1.strict _ _ _ hc
    cases hm : fillRows ((Mat.empty : Mat α A.K).resize counts.length zero) symbols 0 counts with
    | some m => exact Nat.lt_of_lt_of_le hlt hle
    | none =>
      intro hA
      obtain ⟨m, hm'⟩ := fillRows_some symbols (parseAlphabetWith_lt hA hsy) counts
        ((Mat.empty : Mat α A.K).resize counts.length zero) 0 (by simp)
      rw [hm'] at hm
      cases hm
  refine .ite (fun _ => stepOK_continue eats_parseReference i fun _ => r) fun h12 => ?_
  have hend := (eats_tag (t 0x2F 0x2F)).preceded ((eats_parseLine.mono (Nat.zero_le 1)).alt eats_eof)
  refine .ite (fun _ => stepOK_stepOf (hend.noInc i) fun _ _ h => Nat.le_of_add_right_le (hend.le h)) fun h13 => ?_
  refine .ite (fun _ => stepOK_continue eats_parseLine i fun _ => r) fun h14 => ?_
  -- every tag `parse_tag` accepts has its arm
  simp only [knownTags, List.mem_cons, List.not_mem_nil, h1, h2, h3, h4, h5, h6, h7, h8, h9, h10,
    (not_or.mp h11).1, (not_or.mp h11).2, h12, h13, h14, or_false] at hknown

/-- so the guard of `recordLoop` is dead code -/
theorem recordStep_lt (A : Alphabet) (conv : Bytes → Option α) (zero : α)
    (r r' : TRecord α A.K) (i rest : Bytes)
    (h : recordStep A conv zero space1 r i = .continue rest r') : rest.length < i.length := by
  have := recordStep_ok A conv zero r i
  rwa [h] at this

theorem recordLoop_ok {A : Alphabet} (hA : A.IndexOK) (conv : Bytes → Option α) (zero : α)
    (i : Bytes) (r : TRecord α A.K) :
    (∀ site, recordLoop A conv zero space1 r i ≠ .panic site) ∧
    recordLoop A conv zero space1 r i ≠ .error .incomplete := by
  fun_induction recordLoop A conv zero space1 r i
  case case1 ih => exact ih
  case case4 r i e hs =>
    have hstep := recordStep_ok A conv zero r i
    rw [hs] at hstep
    exact ⟨fun _ => nofun, fun h => hstep (RecRes.error.inj h)⟩
  case case5 r i site hs =>
    have hstep := recordStep_ok A conv zero r i
    rw [hs] at hstep
    exact absurd hA hstep
  all_goals exact ⟨fun _ => nofun, nofun⟩

/-! ### the reader -/

theorem tailStartsSlashes_append (buffer l : Bytes) (hl : l ≠ []) (hv : validUtf8 l = true) :
    tailStartsSlashes (buffer ++ l) buffer.length = some ((t 0x2F 0x2F).isPrefixOf l) := by
  unfold tailStartsSlashes
  simp only [List.drop_left]
  cases l with
  | nil => exact absurd rfl hl
  | cons b r =>
    simp only
    rw [validUtf8_head b r hv]
    simp

/-- `last` is where `next` slices the buffer (`&buffer[last..]`): at its end, or at the start of a `//`
    line in it, which is how `Reader::new` leaves the first record; both are character boundaries -/
def Inv (s : State) : Prop :=
  s.last = s.buffer.length ∨ tailStartsSlashes s.buffer s.last = some true

def measure (s : State) : Nat := s.data.length + s.buffer.length

/-- `newLoop` entered with `last` at the end of the buffer, without the proofs its recursion carries -/
theorem newLoop_eq (buffer : Bytes) (sched : List Nat) (data : Bytes) :
    newLoop buffer buffer.length sched data =
      match (readLine sched data).1 with
      | none => .ok buffer buffer.length (some .io) (readLine sched data).2.1 (readLine sched data).2.2
      | some l =>
        if l = [] then .ok buffer buffer.length none (readLine sched data).2.1 (readLine sched data).2.2
        else if (t 0x2F 0x2F).isPrefixOf l then
          .ok (buffer ++ l) buffer.length none (readLine sched data).2.1 (readLine sched data).2.2
        else newLoop (buffer ++ l) (buffer ++ l).length (readLine sched data).2.2 (readLine sched data).2.1 := by
  rw [newLoop]
  split
  · rename_i h; rw [h]
  · rename_i l h
    rw [h]
    by_cases hl : l = []
    · simp [hl]
    · simp only [hl, dite_false, if_false]
      rw [tailStartsSlashes_append buffer l hl (readLine_some h).2]
      cases (t 0x2F 0x2F).isPrefixOf l <;> simp

/-- `nextLoop` adds the length of every line to `last` (`last += n`), `newLoop` does not for the `//`
    line (`if !end { last += n }`): otherwise they are the same loop -/
def Fill.atEnd : Fill → Fill
  | .ok b _ e d s => .ok b b.length e d s
  | .panic site => .panic site

/-- `last` is a variable with `hlast`, here and in `newLoop_ok`, so that `fun_induction` can take the
    arguments of the loop apart -/
theorem nextLoop_eq_newLoop (buffer : Bytes) (last : Nat) (sched : List Nat) (data : Bytes)
    (hlast : last = buffer.length) :
    nextLoop buffer last sched data = (newLoop buffer last sched data).atEnd := by
  fun_induction nextLoop buffer last sched data
  all_goals subst hlast; rw [newLoop_eq]
  -- `read_line` fails, or is at the end of the stream
  case case1 h | case2 h => rw [h]; rfl
  -- a line `l` is appended (`h`).  `last` is where it starts, so the result `hts` of slicing there is
  -- the test on `l` itself: no panic;
  case case3 l h hnil hts =>
    rw [tailStartsSlashes_append _ l hnil (readLine_some h).2] at hts
    cases hts
  -- the `//` line: `nextLoop` puts `last` at the end of the buffer, as `atEnd` does;
  case case4 l h hnil hts =>
    rw [tailStartsSlashes_append _ l hnil (readLine_some h).2] at hts
    rw [h]
    dsimp only
    rw [if_neg hnil, if_pos (Option.some.inj hts), ← List.length_append]
    rfl
  -- any other line: both loops go on
  case case5 l h hnil hts ih =>
    rw [tailStartsSlashes_append _ l hnil (readLine_some h).2] at hts
    rw [h]
    dsimp only
    rw [if_neg hnil, if_neg (Bool.eq_false_iff.mp (Option.some.inj hts)), List.length_append]
    exact ih List.length_append.symm

/-- a line moves from the stream to the buffer -/
theorem readLine_move {sched : List Nat} {data l : Bytes} (buffer : Bytes)
    (h : (readLine sched data).1 = some l) :
    (readLine sched data).2.1.length + (buffer ++ l).length = data.length + buffer.length := by
  rw [List.length_append, Nat.add_comm, Nat.add_assoc, readLine_conserve h, Nat.add_comm]

/-- what the two filling loops leave: no panic, `last` on a line start again, and no more than `n` bytes
    in stream and buffer together -/
def FillOK (n : Nat) : Fill → Prop
  | .panic _ => False
  | .ok b l _ d _ => (l = b.length ∨ tailStartsSlashes b l = some true) ∧ d.length + b.length ≤ n

theorem newLoop_ok (buffer : Bytes) (last : Nat) (sched : List Nat) (data : Bytes)
    (hlast : last = buffer.length) :
    FillOK (data.length + buffer.length) (newLoop buffer last sched data) := by
  fun_induction newLoop buffer last sched data
  -- `read_line` fails, or is at the end of the stream: the buffer is as it was
  case case1 | case2 => exact ⟨Or.inl hlast, Nat.add_le_add_right (readLine_le ..) _⟩
  -- a line `l` is appended (`hl`); slicing where it starts is no panic
  case case3 buffer _ _ _ l hl hnil hts =>
    rw [hlast, tailStartsSlashes_append buffer l hnil (readLine_some hl).2] at hts
    cases hts
  -- the `//` line: `last` stays in front of it (`hts`)
  case case4 buffer _ _ _ _ hl _ hts =>
    exact ⟨Or.inr hts, Nat.le_of_eq (readLine_move buffer hl)⟩
  -- any other line: the loop goes on, with as many bytes in stream and buffer as before
  case case5 buffer _ _ _ _ hl _ _ ih =>
    exact readLine_move buffer hl ▸ ih (by rw [hlast, List.length_append])

theorem FillOK.atEnd {n : Nat} {f : Fill} (h : FillOK n f) : FillOK n f.atEnd := by
  cases f with
  | panic _ => exact h
  | ok _ _ _ _ _ => exact ⟨.inl rfl, h.2⟩

theorem new_ok (sched : List Nat) (data : Bytes) :
    ∃ s, new sched data = .ok s ∧ Inv s ∧ measure s ≤ data.length := by
  have h := newLoop_ok [] 0 sched data rfl
  fun_cases new sched data
  case case1 hf => rw [hf] at h; exact h.elim
  -- a `VV` header: the buffer is cleared
  case case2 hf _ _ _ _ => rw [hf] at h; exact ⟨_, rfl, Or.inl rfl, Nat.le_trans (Nat.le_add_right ..) h.2⟩
  -- `parse_version` is never `Incomplete`
  case case3 b _ _ _ _ _ _ hv => exact absurd hv ((eats_tagLine 0x56 0x56).noInc b)
  -- a `VV` line that does not parse, or none: the buffer stays as `newLoop` left it
  case case4 hf _ _ _ | case5 hf _ => rw [hf] at h; exact ⟨_, rfl, h⟩

theorem tailStartsSlashes_end (buffer : Bytes) : tailStartsSlashes buffer buffer.length = some false := by
  unfold tailStartsSlashes
  rw [if_neg (Nat.lt_irrefl _), List.drop_length]

/-- the buffer is filled up to a `//` line or the end of the stream: `last` is on a line start
    again, and nothing was gained.  `he0` and `hf` are what `fun_cases next` knows of `e0` and of the
    `let filled` of `next`, which is the left side of `hf` -/
theorem fill_ok {s : State} (hinv : Inv s) {e0 : Bool}
    (he0 : tailStartsSlashes s.buffer s.last = some e0) {f : Fill}
    (hf : (if e0 = true then Fill.ok s.buffer s.last none s.data s.sched
      else nextLoop s.buffer s.last s.sched s.data) = f) :
    FillOK (s.data.length + s.buffer.length) f := by
  subst hf
  cases e0 with
  | true => exact ⟨hinv, Nat.le_refl _⟩
  | false =>
    have hlast : s.last = s.buffer.length := hinv.resolve_right (by rw [he0]; nofun)
    rw [nextLoop_eq_newLoop _ _ _ _ hlast]
    exact (newLoop_ok _ _ _ _ hlast).atEnd

/-- what C15 asks of the TRANSFAC reader: an error or the end keeps the state; a record takes the
    whole, non-empty buffer -/
theorem next_ok {A : Alphabet} (hA : A.IndexOK) (conv : Bytes → Option α) (zero : α) (s : State)
    (hinv : Inv s) : CallOK Inv measure s (next A conv zero s) := by
  fun_cases next A conv zero s
  case case1 => exact .quiet rfl rfl hinv
  -- under `Inv`, slicing the buffer at `last` cannot panic
  case case2 h =>
    rcases hinv with h' | h'
    · rw [h', tailStartsSlashes_end] at h; cases h
    · rw [h'] at h; cases h
  -- … nor can filling the buffer (`hf`, with `he0` the result of the slicing)
  case case3 he0 _ _ hf => exact (fill_ok hinv he0 hf).elim
  -- a record is delivered: the buffer `b` is not empty (`hne`) and is cleared
  case case6 he0 _ b _ _ _ hf _ hne _ _ _ =>
    have hpos : 0 < b.length := List.length_pos_iff.mpr (mt List.isEmpty_iff.mpr hne)
    exact ⟨fun _ h => (nomatch h), Or.inl rfl, fun _ _ =>
      Nat.lt_of_lt_of_le (Nat.lt_add_of_pos_right hpos) (fill_ok hinv he0 hf).2⟩
  -- `parse_record` neither panics nor is `Incomplete`
  case case7 b _ _ _ _ _ _ site hp => exact absurd hp ((recordLoop_ok hA conv zero b {}).1 site)
  case case8 b _ _ _ _ _ _ hp => exact absurd hp (recordLoop_ok hA conv zero b {}).2
  -- an error of `read_line`, the end of the stream, an error of `parse_record`
  case case4 he0 _ _ _ _ _ _ hf | case5 he0 _ _ _ _ _ hf _ _ | case9 he0 _ _ _ _ _ hf _ _ _ _ _ =>
    exact .quiet rfl rfl (fill_ok hinv he0 hf).1

end Transfac

end LMV
