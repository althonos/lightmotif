/-
  LMV.Lemmas.Stripe — `pad`, the padded read `s⟦p⟧` in which the striping invariant and the window
  score are written; the cell-writing loops of the striping models, as patches; the array form of
  symbol counting against the single-symbol form.  (At the head: the fold form of `Σ_{i<n}`, the
  form in which `C04.countSymbol_eq_sum` is stated; the counting loop itself is a conditional
  `cnt + 1`.)
-/
import LMV.Model.Seq
import LMV.Lemmas.Patch

namespace LMV

/-- `Σ_{i<n} g i` -/
def sumTo (n : Nat) (g : Nat → Nat) : Nat := (List.range n).foldl (fun a i => a + g i) 0

@[simp] theorem sumTo_zero (g : Nat → Nat) : sumTo 0 g = 0 := rfl

theorem sumTo_eq (n : Nat) (g : Nat → Nat) : sumTo n g = Sampler.sumTo n g := by
  rw [sumTo, foldl_add_init, Nat.zero_add]

namespace Striped

open Mat (Patch)

variable {C : Nat}

theorem toArray_getD (s : List Nat) (i N : Nat) : s.toArray.getD i N = s.getD i N := by
  rw [Array.getD_eq_getD_getElem?, List.getD_eq_getElem?_getD, List.getElem?_toArray]

/-- padded read: symbol `p` of the sequence, the wildcard `N` past its end (`s⟦p⟧` in DESIGN.md) -/
def pad (N : Nat) (s : List Nat) (p : Nat) : Nat := s.getD p N

theorem pad_of_le (N : Nat) (s : List Nat) (p : Nat) (h : s.length ≤ p) : pad N s p = N := by
  simp [pad, List.getD, List.getElem?_eq_none h]

theorem pad_of_lt (N : Nat) (s : List Nat) (p : Nat) (h : p < s.length) : pad N s p = s[p] := by
  simp [pad, List.getD, List.getElem?_eq_getElem h]

theorem pad_lt_of_lt {K : Nat} (N : Nat) (s : List Nat) (hs : ∀ x ∈ s, x < K) {p : Nat}
    (h : p < s.length) : pad N s p < K := by
  rw [pad_of_lt N s p h]; exact hs _ (List.getElem_mem h)

theorem pad_lt {K : Nat} (N : Nat) (s : List Nat) (hs : ∀ x ∈ s, x < K) (hN : N < K) (p : Nat) :
    pad N s p < K := by
  by_cases h : p < s.length
  · exact pad_lt_of_lt N s hs h
  · rw [pad_of_le N s p (Nat.le_of_not_lt h)]; exact hN

/-- `for i in lo..lo+n { data[i % rows][i / rows] = f i }` writes the positions `lo ≤ p < lo + n`,
    position `p` being cell `(p % rows, p / rows)` -/
theorem writeCells_patch (rows : Nat) (hr : 0 < rows) (f : Nat → Nat) (lo n : Nat) (d : Mat Nat C) :
    Patch d (writeCells rows f lo n d)
      (fun r c => r < rows ∧ lo ≤ c * rows + r ∧ c * rows + r < lo + n) (fun r c => f (c * rows + r)) := by
  refine Patch.range _ (fun k r c => r = (lo + k) % rows ∧ c = (lo + k) / rows) d n
    (fun k _ d' _ => Patch.set d' _ _ _ (by rw [Nat.div_add_mod'])) fun r c _ _ => ?_
  constructor
  · rintro ⟨h1, h2, h3⟩
    refine ⟨c * rows + r - lo, Nat.sub_lt_left_of_lt_add h2 h3, ?_⟩
    rw [Nat.add_sub_cancel' h2, pos_mod rows c r h1, pos_div rows c r h1]
    exact ⟨rfl, rfl⟩
  · rintro ⟨k, hk, rfl, rfl⟩
    rw [Nat.div_add_mod']
    exact ⟨Nat.mod_lt _ hr, Nat.le_add_right lo k, Nat.add_lt_add_left hk lo⟩

/-! ### the loops of `configure_wrap`, which the model writes inline -/

/-- the inner loop of `configure_wrap`: `for j in 0..n { data[dst][j] = data[src][j + 1] }` -/
def shiftLoop (dst src n : Nat) (d : Mat Nat C) : Mat Nat C :=
  (List.range n).foldl (fun d j => d.set dst j (d.get src (j + 1))) d

/-- It holds even when `dst = src` (a wrap row copied from itself, which happens when the sequence is
    empty): step `j` reads cell `j+1`, which no earlier step wrote. -/
theorem shiftLoop_patch (dst src n : Nat) (d : Mat Nat C) :
    Patch d (shiftLoop dst src n d) (fun r c => r = dst ∧ c < n) (fun _ c => d.get src (c + 1)) :=
  Patch.range _ (fun j r c => r = dst ∧ c = j) d n
    (fun j _ d' h =>
      have hmiss : ¬ ∃ k, k < j ∧ src = dst ∧ j + 1 = k := by
        rintro ⟨k, hk, -, rfl⟩; exact Nat.not_lt_of_le (Nat.le_add_right j 1) hk
      Patch.set d' _ _ _ (h.miss src (j + 1) hmiss default).symm)
    fun r c _ _ => ⟨fun h => ⟨c, h.2, h.1, rfl⟩, by rintro ⟨k, hk, h1, rfl⟩; exact ⟨h1, hk⟩⟩

/-- one iteration of the outer loop of `configure_wrap` -/
def wrapRow (N rows i : Nat) (d : Mat Nat C) : Mat Nat C :=
  (shiftLoop (rows + i) i (C - 1) d).set (rows + i) (C - 1) N

theorem wrapRow_patch (N rows i : Nat) (d : Mat Nat C) :
    Patch d (wrapRow N rows i d) (fun r _ => r = rows + i)
      (fun _ c => if c + 1 < C then d.get i (c + 1) else N) := by
  -- the shifted columns `c < C - 1` are on the `then` side, the column `C - 1` set last on the `else` side
  have hlast : ¬ C - 1 + 1 < C := Nat.not_lt_of_le (Nat.le_add_of_sub_le (Nat.le_refl _))
  refine (((shiftLoop_patch (rows + i) i (C - 1) d).vals fun _ c _ _ h => if_pos (Nat.add_lt_of_lt_sub h.2)).trans
    (Patch.set _ (rows + i) (C - 1) N (if_neg hlast))).congr fun _ c _ hc => ?_
  have hcol : c < C - 1 ∨ c = C - 1 := Nat.lt_or_eq_of_le (Nat.le_sub_one_of_lt hc)
  exact ⟨fun h => hcol.imp (And.intro h) (And.intro h), fun h => h.elim And.left And.left⟩

/-! ### `count_symbols` (the array form) is `count_symbol`, entry by entry -/

/-- no bound on `a`: an out-of-range `a` leaves the array alone, and it is not `k` -/
theorem getD_set_bump (cnts : List Nat) (a k : Nat) (hk : k < cnts.length) :
    (cnts.set a (cnts.getD a 0 + 1)).getD k 0 = cnts.getD k 0 + (if a = k then 1 else 0) := by
  simp only [List.getD_eq_getElem?_getD, List.getElem?_set]
  by_cases hak : a = k
  · subst hak
    simp [hk]
  · simp [hak]

/-- for every matrix content: symbols `≥ K`, which the Rust type excludes, are simply not counted -/
theorem countSymbols_lockstep (K : Nat) (st : Striped C) (k : Nat) :
    (st.countSymbols K).length = K ∧ (k < K → (st.countSymbols K).getD k 0 = st.countSymbol k) := by
  unfold countSymbols countSymbol
  -- the two double loops run in lock-step
  let R (cnts : List Nat) (cnt : Nat) : Prop := cnts.length = K ∧ (k < K → cnts.getD k 0 = cnt)
  refine List.foldl_rel (r := R)
    ⟨List.length_replicate, fun hk => by simp [List.getD_eq_getElem?_getD, hk]⟩
    fun i _ cnts cnt hR => List.foldl_rel (r := R) hR fun j _ cnts cnt hR => ?_
  by_cases hc : j * (st.data.rows - st.wrap) + i < st.length
  · rw [if_pos hc]
    refine ⟨by rw [List.length_set]; exact hR.1, fun hk => ?_⟩
    rw [getD_set_bump _ _ _ (hR.1 ▸ hk), hR.2 hk]
    simp only [hc, true_and]
    exact apply_ite (cnt + ·) _ 1 0
  · rw [if_neg hc]
    exact ⟨hR.1, fun hk => by rw [hR.2 hk, if_neg fun h => hc h.1]⟩

theorem countSymbols_length (K : Nat) (st : Striped C) : (st.countSymbols K).length = K :=
  (countSymbols_lockstep K st 0).1

theorem countSymbols_getD (K : Nat) (st : Striped C) (k : Nat) (hk : k < K) :
    (st.countSymbols K).getD k 0 = st.countSymbol k :=
  (countSymbols_lockstep K st k).2 hk

theorem countSymbols_eq_map_countSymbol (K : Nat) (st : Striped C) :
    st.countSymbols K = (List.range K).map st.countSymbol := by
  rw [eq_map_range_getD (st.countSymbols K) 0, countSymbols_length]
  exact List.map_congr_left fun k hk => countSymbols_getD K st k (List.mem_range.1 hk)

end Striped
end LMV
