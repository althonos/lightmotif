/-
  LMV.Lemmas.Maximum — helper lemmas for C07: total preorders given by Boolean comparisons, scans
  that keep a running best, lane-wise row loops, stores through index maps.
-/
import LMV.Model.Maximum
import LMV.Lemmas.Sums

namespace LMV
namespace Maximum

open LMV.Gen.MaxK

/-- "no NaN": the comparisons form a total preorder, and `<` is the strict part of `<=` -/
structure Cmp.Total {α : Type} (o : Cmp α) : Prop where
  total : ∀ a b, o.le a b = true ∨ o.le b a = true
  trans : ∀ a b c, o.le a b = true → o.le b c = true → o.le a c = true
  lt_iff : ∀ a b, o.lt a b = !o.le b a

namespace Cmp.Total
variable {α : Type} {o : Cmp α}

theorem refl (h : o.Total) (a : α) : o.le a a = true := by
  cases h.total a a <;> assumption

theorem le_of_not_le (h : o.Total) {a b : α} (hab : o.le a b = false) : o.le b a = true := by
  cases h.total a b with
  | inl h1 => rw [h1] at hab; cases hab
  | inr h1 => exact h1

theorem le_of_lt (h : o.Total) {a b : α} (hab : o.lt a b = true) : o.le a b = true := by
  rw [h.lt_iff, Bool.not_eq_true'] at hab
  exact h.le_of_not_le hab

theorem le_of_not_lt (h : o.Total) {a b : α} (hab : o.lt a b = false) : o.le b a = true := by
  rw [h.lt_iff, Bool.not_eq_false'] at hab
  exact hab

/-- the comparisons decide a total preorder `r` and its strict part: how `Nat`, `u8` get `Total` -/
theorem of_rel (r : α → α → Prop) (total : ∀ a b, r a b ∨ r b a)
    (trans : ∀ a b c, r a b → r b c → r a c) (hle : ∀ a b, o.le a b = true ↔ r a b)
    (hlt : ∀ a b, o.lt a b = true ↔ ¬ r b a) : o.Total where
  total a b := (total a b).imp (hle a b).2 (hle b a).2
  trans a b c h1 h2 := (hle a c).2 (trans a b c ((hle a b).1 h1) ((hle b c).1 h2))
  lt_iff a b := by rw [Bool.eq_iff_iff, hlt, Bool.not_eq_true', ← Bool.not_eq_true, hle]

end Cmp.Total

/-! ### Scans keeping a running best -/

section Scan
variable {α σ ι κ : Type}

/-- The running maximum, with state and key apart so that it serves the scalar scans (state = best
    coordinate), the epilogues and the lane loops (state = value). -/
theorem foldl_max (le : κ → κ → Bool) (htot : ∀ a b, le a b = true ∨ le b a = true)
    (htrans : ∀ a b c, le a b = true → le b c = true → le a c = true)
    (key : σ → κ) (mk : ι → σ) (step : σ → ι → σ)
    (hstep : ∀ s x, (step s x = s ∧ le (key (mk x)) (key s) = true) ∨
      (step s x = mk x ∧ le (key s) (key (mk x)) = true)) :
    ∀ (l : List ι) (s : σ), (l.foldl step s = s ∨ ∃ x ∈ l, l.foldl step s = mk x) ∧
      le (key s) (key (l.foldl step s)) = true ∧
      ∀ x ∈ l, le (key (mk x)) (key (l.foldl step s)) = true := by
  have hrefl : ∀ a, le a a = true := fun a => by cases htot a a <;> assumption
  intro l
  induction l with
  | nil => intro s; exact ⟨Or.inl rfl, hrefl _, by simp⟩
  | cons x xs ih =>
    intro s
    obtain ⟨h1, h2, h3⟩ := ih (step s x)
    simp only [List.foldl_cons, List.mem_cons, exists_eq_or_imp, forall_eq_or_imp]
    rcases hstep s x with ⟨e, hle⟩ | ⟨e, hle⟩ <;> rw [e] at h1 h2 h3 ⊢
    · exact ⟨h1.imp id Or.inr, h2, htrans _ _ _ hle h2, h3⟩
    · refine ⟨Or.inr (h1.imp id id), htrans _ _ _ hle h2, h2, h3⟩

/-- `foldl_max` for a step written `if take s x then mk x else s`, the form of the Rust scans -/
theorem foldl_select (le : κ → κ → Bool) (htot : ∀ a b, le a b = true ∨ le b a = true)
    (htrans : ∀ a b c, le a b = true → le b c = true → le a c = true)
    (key : σ → κ) (mk : ι → σ) (take : σ → ι → Bool)
    (h1 : ∀ s x, take s x = true → le (key s) (key (mk x)) = true)
    (h2 : ∀ s x, take s x = false → le (key (mk x)) (key s) = true)
    (step : σ → ι → σ) (hs : ∀ s x, step s x = if take s x = true then mk x else s) :
    ∀ (l : List ι) (s : σ), (l.foldl step s = s ∨ ∃ x ∈ l, l.foldl step s = mk x) ∧
      le (key s) (key (l.foldl step s)) = true ∧
      ∀ x ∈ l, le (key (mk x)) (key (l.foldl step s)) = true :=
  foldl_max le htot htrans key mk step fun s x => by
    rw [hs]
    cases h : take s x
    · exact Or.inl ⟨by simp, h2 s x h⟩
    · exact Or.inr ⟨by simp, h1 s x h⟩

/-- what the proofs use of `f32::max`, `_mm256_max_ps`, `_mm256_max_epu8` and the closure of
    `Iterator::max`: the result is one of the operands and bounds both; which one wins a tie is left
    open -/
def MaxLike (o : Cmp α) (op : α → α → α) : Prop :=
  ∀ a b, (op a b = a ∨ op a b = b) ∧ o.le a (op a b) = true ∧ o.le b (op a b) = true

theorem MaxLike.elim {o : Cmp α} {op : α → α → α} (hop : MaxLike o op) {P : α → Prop} {a b : α}
    (ha : P a) (hb : P b) : P (op a b) := by
  rcases (hop a b).1 with e | e <;> rw [e] <;> assumption

theorem MaxLike.le_left {o : Cmp α} {op : α → α → α} (hop : MaxLike o op) (ht : o.Total) {x a : α}
    (b : α) (h : o.le x a = true) : o.le x (op a b) = true := ht.trans _ _ _ h (hop a b).2.1

theorem MaxLike.le_right {o : Cmp α} {op : α → α → α} (hop : MaxLike o op) (ht : o.Total) {x b : α}
    (a : α) (h : o.le x b = true) : o.le x (op a b) = true := ht.trans _ _ _ h (hop a b).2.2

/-- the form `foldl_max` wants -/
theorem MaxLike.cases {o : Cmp α} {op : α → α → α} (hop : MaxLike o op) (a b : α) :
    (op a b = a ∧ o.le b a = true) ∨ (op a b = b ∧ o.le a b = true) := by
  rcases (hop a b).1 with e | e
  · exact Or.inl ⟨e, e ▸ (hop a b).2.2⟩
  · exact Or.inr ⟨e, e ▸ (hop a b).2.1⟩

theorem maxLike_flip (o : Cmp α) (op : α → α → α) (hop : MaxLike o op) :
    MaxLike o (fun a b => op b a) := by
  intro a b
  obtain ⟨g1, g2, g3⟩ := hop b a
  exact ⟨g1.symm, g3, g2⟩

theorem maxps_maxLike (o : Cmp α) (ht : o.Total) : MaxLike o (maxps o) := by
  intro a b
  fun_cases maxps o a b with
  | case1 h => exact ⟨Or.inl rfl, ht.refl _, ht.le_of_lt h⟩
  | case2 h => exact ⟨Or.inr rfl, ht.le_of_not_lt (Bool.eq_false_iff.2 h), ht.refl _⟩

/-- `fmax o a b` is `maxps o b a` -/
theorem fmax_maxLike (o : Cmp α) (ht : o.Total) : MaxLike o (fmax o) :=
  maxLike_flip o _ (maxps_maxLike o ht)

/-- whichever operand the accumulator is (`mf32AccFirst`, `mu8AccFirst`) -/
theorem MaxLike.accFirst {o : Cmp α} {op : α → α → α} (hop : MaxLike o op) (c : Bool) :
    MaxLike o (fun m r => if c then op m r else op r m) := by
  cases c
  · exact maxLike_flip o op hop
  · exact hop

/-- `_mm256_max_epu8` is written like `f32::max` in the model -/
theorem maxepu8_maxLike (o : Cmp α) (ht : o.Total) : MaxLike o (maxepu8 o) := fmax_maxLike o ht

/-- the closure of `Iterator::max` (`iterMax`) and of `Scores::max` (`scoresMax`) is `maxps` -/
theorem iterMaxOp_maxLike (o : Cmp α) (ht : o.Total) :
    MaxLike o (fun a b => if o.lt b a then a else b) := maxps_maxLike o ht

theorem reduce1_max (o : Cmp α) (ht : o.Total) (key : σ → α) (op : σ → σ → σ)
    (hop : ∀ a b, (op a b = a ∧ o.le (key b) (key a) = true) ∨
      (op a b = b ∧ o.le (key a) (key b) = true))
    (l : List σ) (v : σ) (h : reduce1 op l = some v) :
    v ∈ l ∧ ∀ x ∈ l, o.le (key x) (key v) = true := by
  cases l with
  | nil => cases h
  | cons a t =>
    cases h
    obtain ⟨h1, h2, h3⟩ := foldl_max o.le ht.total ht.trans key (fun x => x) op hop t a
    exact ⟨List.mem_cons.2 (h1.imp id fun ⟨x, hx, e⟩ => e ▸ hx), List.forall_mem_cons.2 ⟨h2, h3⟩⟩

theorem reduce1_maxLike (o : Cmp α) (ht : o.Total) (op : α → α → α) (hop : MaxLike o op)
    (l : List α) (v : α) (h : reduce1 op l = some v) : v ∈ l ∧ ∀ x ∈ l, o.le x v = true :=
  reduce1_max o ht (fun x => x) op hop.cases l v h

theorem maxByKeyLast_spec {β : Type} (o : Cmp α) (ht : o.Total) (key : β → α) (l : List β) (b : β)
    (h : maxByKeyLast o.le key l = some b) : b ∈ l ∧ ∀ x ∈ l, o.le (key x) (key b) = true := by
  refine reduce1_max o ht key (fun b x => if o.le (key b) (key x) then x else b) (fun a b => ?_) l b
    (by cases l <;> exact h)
  cases hc : o.le (key a) (key b)
  · exact Or.inl ⟨by simp, ht.le_of_not_le hc⟩
  · exact Or.inr ⟨by simp, rfl⟩

theorem maxByKeyLast_eq_none {β κ : Type} (le : κ → κ → Bool) (key : β → κ) (l : List β) :
    maxByKeyLast le key l = none ↔ l = [] := by
  cases l <;> simp [maxByKeyLast]

theorem maxByKeyLast_zipIdx_ne_none {γ κ : Type} (le : κ → κ → Bool) (key : γ × Nat → κ)
    {x : List γ} (h : 0 < x.length) : maxByKeyLast le key x.zipIdx ≠ none := by
  intro e
  have := congrArg List.length ((maxByKeyLast_eq_none _ _ _).1 e)
  rw [List.length_zipIdx, List.length_nil] at this
  exact Nat.ne_of_gt h this

theorem reduce1_eq_none {β : Type} (op : β → β → β) (l : List β) : reduce1 op l = none ↔ l = [] := by
  cases l <;> simp [reduce1]

end Scan

/-! ### The row loop, lane by lane -/

section Rows
variable {σ ρ : Type}

/-- what one SIMD lane (slot) sees of a kernel's row loop: the step down its own column
    (`rowsRun_getElem?`) -/
def laneFold (step : Nat → σ → ρ → σ) (g : Nat → ρ) (l : List Nat) (a : σ) : σ :=
  l.foldl (fun acc i => step i acc (g i)) a

theorem rowsRun_getElem? (step : Nat → σ → ρ → σ) (rd : Nat → Nat → ρ) (rows : Nat)
    (init : List σ) (s : Nat) :
    (rowsRun step rd rows init)[s]? =
      init[s]?.map (laneFold step (fun i => rd i s) (List.range rows)) := by
  unfold rowsRun
  generalize List.range rows = l
  induction l generalizing init with
  | nil =>
    rw [List.foldl_nil]
    cases init[s]? <;> rfl
  | cons i l ih =>
    rw [List.foldl_cons, ih]
    simp only [rowStep, List.getElem?_mapIdx, Option.map_map]
    cases init[s]? <;> rfl

theorem rowsRun_length (step : Nat → σ → ρ → σ) (rd : Nat → Nat → ρ) (rows : Nat) (init : List σ) :
    (rowsRun step rd rows init).length = init.length :=
  List.foldlRecOn _ _ (motive := fun st : List σ => st.length = init.length) rfl
    fun _ h _ _ => (List.length_mapIdx ..).trans h

/-- The score register `s` stands for the value `dec s` (`s` itself for floats, `s + 1` in the 16-bit
    lanes of the u8 kernel, which store `r - 1`); `hinit`: the first row is taken. -/
theorem laneFold_argmax (le : ρ → ρ → Bool)
    (htot : ∀ a b, le a b = true ∨ le b a = true)
    (htrans : ∀ a b c, le a b = true → le b c = true → le a c = true)
    (take : σ → ρ → Bool) (upd : ρ → σ) (idx : Nat → Nat) (dec : σ → ρ)
    (hupd : ∀ r, dec (upd r) = r) (htake : ∀ s r, take s r = le (dec s) r)
    (g : Nat → ρ) (p0 : Nat) (s0 : σ) (hinit : take s0 (g 0) = true)
    (rows : Nat) (hrows : 0 < rows) (hidx : ∀ i, i < rows → idx i = i) :
    (laneFold (laneStep take upd idx) g (List.range rows) (p0, s0)).1 < rows ∧
      ∀ i, i < rows →
        le (g i) (g (laneFold (laneStep take upd idx) g (List.range rows) (p0, s0)).1) = true := by
  obtain ⟨n, rfl⟩ : ∃ n, rows = n + 1 := ⟨rows - 1, (Nat.sub_add_cancel hrows).symm⟩
  -- row 0 is taken; from there the state is always some `mk i`
  have h := foldl_select le htot htrans (fun a : Nat × σ => dec a.2) (fun i => (idx i, upd (g i)))
    (fun a i => take a.2 (g i))
    (fun a i hi => by rw [hupd, ← htake]; exact hi)
    (fun a i hi => by
      rw [hupd]; rw [htake] at hi
      exact (htot _ _).resolve_left (Bool.eq_false_iff.1 hi))
    (fun a i => laneStep take upd idx i a (g i)) (fun _ _ => rfl)
    (List.range' 1 n) (idx 0, upd (g 0))
  have he : laneFold (laneStep take upd idx) g (List.range (n + 1)) (p0, s0) =
      (List.range' 1 n).foldl (fun a i => laneStep take upd idx i a (g i)) (idx 0, upd (g 0)) := by
    simp only [laneFold, List.range_eq_range', List.range'_succ, List.foldl_cons]
    simp only [laneStep, hinit, if_true]
  rw [he]
  obtain ⟨h1, h2, h3⟩ := h
  generalize List.foldl _ _ (List.range' 1 n) = r at h1 h2 h3 ⊢
  obtain ⟨q, hq, rfl⟩ : ∃ q, q < n + 1 ∧ r = (idx q, upd (g q)) := by
    rcases h1 with e | ⟨q, hq, e⟩
    · exact ⟨0, Nat.succ_pos n, e⟩
    · exact ⟨q, Nat.add_comm 1 n ▸ (List.mem_range'_1.1 hq).2, e⟩
  simp only [hupd, List.mem_range'_1] at h2 h3
  rw [show (idx q, upd (g q)).1 = q from hidx q hq]
  refine ⟨hq, fun i hi => ?_⟩
  rcases Nat.eq_zero_or_pos i with rfl | hpos
  · exact h2
  · exact h3 i ⟨hpos, Nat.add_comm n 1 ▸ hi⟩

theorem laneFold_maxLike {α : Type} (o : Cmp α) (ht : o.Total) (step : Nat → α → α → α)
    (hop : ∀ i, MaxLike o (step i)) (g : Nat → α) (rows : Nat) (a : α) :
    let r := laneFold step g (List.range rows) a
    (r = a ∨ ∃ i, i < rows ∧ r = g i) ∧ o.le a r = true ∧ ∀ i, i < rows → o.le (g i) r = true := by
  simpa only [List.mem_range, laneFold] using foldl_max o.le ht.total ht.trans (fun x => x) g
    (fun m i => step i m (g i)) (fun s i => (hop i).cases s (g i)) (List.range rows) a

end Rows

/-! ### Stores through index maps -/

section Stores
variable {β γ : Type}

theorem regLanes_map (g : β → γ) (w : Nat) (p : List β) (k : Nat) :
    regLanes w (p.map g) k = (regLanes w p k).map g := by
  simp [regLanes, List.map_take, List.map_drop]

theorem half128_map (g : β → γ) (z : β) (w : Nat) (p : List β) (a b ctl : Nat) :
    half128 (g z) w (p.map g) a b ctl = (half128 z w p a b ctl).map g := by
  simp only [half128, apply_ite (List.map g), List.map_replicate, List.map_take, List.map_drop,
    regLanes_map]

theorem Src.lanes_map (g : β → γ) (z : β) (w : Nat) (p : List β) (s : Src) :
    Src.lanes (g z) w (p.map g) s = (Src.lanes z w p s).map g := by
  cases s with
  | reg k => simp [Src.lanes, regLanes_map]
  | perm a b imm => simp [Src.lanes, half128_map]

theorem writeAt_map (g : β → γ) (x : List β) (off : Nat) (v : List β) :
    writeAt (x.map g) off (v.map g) = (writeAt x off v).map g := by
  simp [writeAt, List.map_take, List.map_drop]

theorem storeAll_map (g : β → γ) (z : β) (n w : Nat) (stores : List (Nat × Src)) (p : List β) :
    storeAll (g z) n w stores (p.map g) = (storeAll z n w stores p).map g := by
  unfold storeAll
  rw [show List.replicate n (g z) = (List.replicate n z).map g from List.map_replicate.symm]
  exact List.foldl_hom (List.map g) fun x st => by rw [Src.lanes_map, writeAt_map]

/-- stores act on the register file through an index map: with the slots labelled `0..n` (and the
    label `n` for "zero"), the stored array is the image of the stored labels -/
theorem storeAll_eq_map (z : β) (n w : Nat) (stores : List (Nat × Src)) (p : List β)
    (hp : p.length = n) :
    storeAll z n w stores p = (storeAll n n w stores (List.range n)).map (fun i => p.getD i z) := by
  have h1 : p.getD n z = z := by
    simp [List.getD_eq_getElem?_getD, List.getElem?_eq_none (Nat.le_of_eq hp)]
  have h2 := storeAll_map (fun i => p.getD i z) n n w stores (List.range n)
  simp only [h1] at h2
  rw [← h2]
  congr 1
  rw [← hp]
  exact eq_map_range_getD p z

theorem length_writeAt (x : List β) (off : Nat) (v : List β) (h : off + v.length ≤ x.length) :
    (writeAt x off v).length = x.length := by
  rw [writeAt, List.length_append, List.length_append, List.length_drop,
    List.length_take_of_le (Nat.le_trans (Nat.le_add_right _ _) h), Nat.add_sub_cancel' h]

theorem getElem?_writeAt (x : List β) (off : Nat) (v : List β) (h : off + v.length ≤ x.length)
    (i : Nat) :
    (writeAt x off v)[i]? =
      if i < off then x[i]? else if i < off + v.length then v[i - off]? else x[i]? := by
  have h1 : (x.take off).length = off :=
    List.length_take_of_le (Nat.le_trans (Nat.le_add_right _ _) h)
  unfold writeAt
  rw [List.append_assoc, List.getElem?_append, List.getElem?_append, h1, List.getElem?_drop]
  by_cases hi : i < off
  · rw [if_pos hi, if_pos hi, List.getElem?_take_of_lt hi]
  · rw [if_neg hi, if_neg hi]
    simp only [Nat.sub_lt_iff_lt_add' (Nat.le_of_not_lt hi)]
    by_cases hi2 : i < off + v.length
    · rw [if_pos hi2, if_pos hi2]
    · rw [if_neg hi2, if_neg hi2, Nat.sub_sub, Nat.add_sub_cancel' (Nat.le_of_not_lt hi2)]

end Stores

end Maximum
end LMV
