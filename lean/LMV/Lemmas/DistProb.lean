/-
  LMV.Lemmas.DistProb — sums over words: the functional convolution `specQ` is the distribution
  of the integer score of a background-distributed word.
-/
import LMV.Lemmas.Dist
import LMV.Spec.Dist
import Mathlib.Algebra.BigOperators.Ring.List

namespace LMV.Dist

/-! ### words -/

theorem mem_words {syms : List Nat} {n : Nat} {w : List Nat} (h : w ∈ words syms n) :
    w.length = n ∧ ∀ a ∈ w, a ∈ syms := by
  fun_induction words syms n generalizing w with
  | case1 => rw [List.mem_singleton.1 h]; exact ⟨rfl, fun a ha => absurd ha List.not_mem_nil⟩
  | case2 n ih =>
    obtain ⟨w', hw', h⟩ := List.mem_flatMap.1 h
    obtain ⟨a, ha, rfl⟩ := List.mem_map.1 h
    obtain ⟨hl, hm⟩ := ih hw'
    exact ⟨congrArg Nat.succ hl, List.forall_mem_cons.2 ⟨ha, hm⟩⟩

theorem wt_nonneg {syms : List Nat} {bg : List Rat} (hbg : ∀ a ∈ syms, 0 ≤ bg.getD a 0) :
    ∀ {w : List Nat}, (∀ a ∈ w, a ∈ syms) → 0 ≤ wt bg w
  | [], _ => zero_le_one
  | a :: w, h => by
    exact mul_nonneg (hbg a (h a List.mem_cons_self))
      (wt_nonneg hbg (fun b hb => h b (List.mem_cons_of_mem _ hb)))

theorem sum_words_succ (syms : List Nat) (n : Nat) (g : List Nat → Rat) :
    ((words syms (n + 1)).map g).sum =
      ((words syms n).map (fun w => (syms.map (fun a => g (a :: w))).sum)).sum := by
  rw [words, List.flatMap_def, List.map_flatten, List.sum_flatten, List.map_map, List.map_map]
  simp only [Function.comp_def, List.map_map]

/-! ### probabilities -/

theorem prob_mono {syms : List Nat} {bg : List Rat} (hbg : ∀ a ∈ syms, 0 ≤ bg.getD a 0) (M : Nat)
    (e1 e2 : List Nat → Bool) (h : ∀ w ∈ words syms M, e1 w = true → e2 w = true) :
    prob syms bg M e1 ≤ prob syms bg M e2 := by
  apply List.sum_le_sum
  intro w hw
  have hnn := wt_nonneg hbg (mem_words hw).2
  by_cases h1 : e1 w = true
  · rw [if_pos h1, if_pos (h w hw h1)]
  · rw [if_neg h1]
    split
    · exact hnn
    · exact le_refl _

theorem prob_nonneg {syms : List Nat} {bg : List Rat} (hbg : ∀ a ∈ syms, 0 ≤ bg.getD a 0) (M : Nat)
    (e : List Nat → Bool) : 0 ≤ prob syms bg M e := by
  apply List.sum_nonneg
  intro x hx
  obtain ⟨w, hw, rfl⟩ := List.mem_map.mp hx
  split
  · exact wt_nonneg hbg (mem_words hw).2
  · exact le_refl _

theorem prob_true (syms : List Nat) (bg : List Rat) (M : Nat) :
    prob syms bg M (fun _ => true) = ((syms.map (fun a => bg.getD a 0)).sum) ^ M := by
  unfold prob
  induction M with
  | zero => rw [pow_zero]; exact add_zero _
  | succ n ih =>
    simp only [if_true] at ih ⊢
    rw [sum_words_succ, pow_succ', ← ih, ← List.sum_map_mul_left]
    exact congrArg List.sum (List.map_congr_left fun w _ =>
      List.sum_map_mul_right syms (fun a => bg.getD a 0) (wt bg w))

theorem prob_le_one {syms : List Nat} {bg : List Rat} (hbg : ∀ a ∈ syms, 0 ≤ bg.getD a 0)
    (hsum : (syms.map (fun a => bg.getD a 0)).sum ≤ 1) (M : Nat) (e : List Nat → Bool) :
    prob syms bg M e ≤ 1 := by
  calc prob syms bg M e ≤ prob syms bg M (fun _ => true) := prob_mono hbg M _ _ (fun _ _ _ => rfl)
    _ = ((syms.map (fun a => bg.getD a 0)).sum) ^ M := prob_true syms bg M
    _ ≤ 1 := by
      apply pow_le_one₀ _ hsum
      apply List.sum_nonneg
      intro x hx
      obtain ⟨a, ha, rfl⟩ := List.mem_map.mp hx
      exact hbg a ha

theorem prob_congr (syms : List Nat) (bg : List Rat) (M : Nat) (e1 e2 : List Nat → Bool)
    (h : ∀ w ∈ words syms M, e1 w = e2 w) : prob syms bg M e1 = prob syms bg M e2 := by
  refine congrArg List.sum (List.map_congr_left fun w hw => ?_)
  rw [h w hw]

theorem prob_false (syms : List Nat) (bg : List Rat) (M : Nat) (e : List Nat → Bool)
    (h : ∀ w ∈ words syms M, e w = false) : prob syms bg M e = 0 := by
  apply List.sum_eq_zero
  intro x hx
  obtain ⟨w, hw, rfl⟩ := List.mem_map.mp hx
  rw [h w hw]; simp

/-! ### the functional convolution is a sum over words -/

/-- contribution of the word `w` to cell `j` when the rows `data` are convolved onto density `q` -/
def wordTerm (bg : List Rat) (data : List (List Int)) (q : Nat → Rat) (j : Nat) (w : List Nat) : Rat :=
  match dscore data w with
  | some t => if t ≤ j then q (j - t) * wt bg w else 0
  | none => 0

theorem dscore_cons (row : List Int) (rest : List (List Int)) (a : Nat) (w : List Nat) :
    dscore (row :: rest) (a :: w) =
      if row.getD a 0 = I32_MIN then none
      else match dscore rest w with
        | some t => some (t + (row.getD a 0).toNat)
        | none => none := by
  rw [dscore]; rfl

theorem wordTerm_cons (bg : List Rat) (row : List Int) (rest : List (List Int)) (q : Nat → Rat)
    (j a : Nat) (w : List Nat) :
    wordTerm bg (row :: rest) q j (a :: w) =
      match dscore rest w with
      | some t => if t ≤ j then symTerm bg row q a (j - t) * wt bg w else 0
      | none => 0 := by
  unfold wordTerm symTerm
  rw [dscore_cons]
  cases dscore rest w with
  | none => simp only [ite_self]
  | some t =>
    by_cases hmin : row.getD a 0 = I32_MIN
    · simp only [if_pos hmin, zero_mul, ite_self]
    · simp only [if_neg hmin]
      by_cases h : t + (row.getD a 0).toNat ≤ j
      · rw [if_pos h, if_pos (Nat.le_trans (Nat.le_add_right _ _) h), if_pos (Nat.le_sub_of_add_le' h),
          Nat.sub_sub, wt, mul_assoc]
      · rw [if_neg h]
        by_cases htj : t ≤ j
        · rw [if_pos htj, if_neg fun hs => h (Nat.add_le_of_le_sub' htj hs), zero_mul]
        · rw [if_neg htj]

theorem wordTerm_step (syms : List Nat) (bg : List Rat) (row : List Int) (rest : List (List Int))
    (q : Nat → Rat) (j : Nat) (w : List Nat) :
    wordTerm bg rest (stepQ syms bg row q) j w =
      (syms.map (fun a => wordTerm bg (row :: rest) q j (a :: w))).sum := by
  simp only [wordTerm_cons]
  unfold wordTerm
  cases dscore rest w with
  | none => simp
  | some t =>
    by_cases htj : t ≤ j
    · simp only [if_pos htj]
      rw [List.sum_map_mul_right]
      rfl
    · simp [if_neg htj]

/-- Stated for every starting density `q`, so that the induction can absorb the FIRST row into it
    (`stepQ`): `Spec.words` conses the new symbol in front, so `sum_words_succ` peels off the symbol
    of the first row, the one `specQ` and `dscore` consume first. -/
theorem specQ_eq_sum (syms : List Nat) (bg : List Rat) (data : List (List Int)) :
    ∀ (q : Nat → Rat) (j : Nat),
      specQ syms bg data q j = ((words syms data.length).map (wordTerm bg data q j)).sum := by
  induction data with
  | nil =>
    simp [specQ, words, wordTerm, dscore, wt]
  | cons row rest ih =>
    intro q j
    show specQ syms bg rest (stepQ syms bg row q) j = _
    rw [ih, List.length_cons, sum_words_succ]
    refine congrArg List.sum (List.map_congr_left fun w _ => ?_)
    exact wordTerm_step syms bg row rest q j w

/-- clause (1): the density computed by the convolution, as a function, is the distribution of the
    integer score -/
theorem specQ_delta0 (syms : List Nat) (bg : List Rat) (data : List (List Int)) (j : Nat) :
    specQ syms bg data delta0 j = prob syms bg data.length (dEq data j) := by
  rw [specQ_eq_sum]; unfold prob
  refine congrArg List.sum (List.map_congr_left fun w _ => ?_)
  unfold wordTerm dEq delta0
  cases dscore data w with
  | none => rfl
  | some t =>
    simp only [decide_eq_true_eq]
    rcases Nat.lt_trichotomy t j with h | rfl | h
    · rw [if_pos h.le, if_neg (Nat.sub_ne_zero_of_lt h), zero_mul, if_neg h.ne]
    · rw [if_pos le_rfl, Nat.sub_self, if_pos rfl, one_mul, if_pos rfl]
    · rw [if_neg (Nat.not_le.2 h), if_neg h.ne']

/-! ### the tails of the integer score -/

theorem prob_dGe_succ (syms : List Nat) (bg : List Rat) (M : Nat) (data : List (List Int)) (j : Nat) :
    prob syms bg M (dGe data (j : Int)) =
      prob syms bg M (dEq data j) + prob syms bg M (dGe data ((j + 1 : Nat) : Int)) := by
  unfold prob
  rw [← List.sum_map_add]
  refine congrArg List.sum (List.map_congr_left fun w _ => ?_)
  unfold dGe dEq
  cases dscore data w with
  | none => exact (add_zero _).symm
  | some t =>
    simp only [decide_eq_true_eq, Int.ofNat_le]
    rcases Nat.lt_trichotomy t j with h | h | h
    · rw [if_neg (Nat.not_le.2 h), if_neg h.ne, if_neg (Nat.not_le.2 (Nat.lt_succ_of_lt h)), add_zero]
    · rw [if_pos h.ge, if_pos h, if_neg (h ▸ Nat.not_succ_le_self t), add_zero]
    · rw [if_pos h.le, if_neg h.ne', if_pos (Nat.succ_le_of_lt h), zero_add]

theorem dGe_antitone (data : List (List Int)) {k1 k2 : Int} (h : k1 ≤ k2) (w : List Nat) :
    dGe data k2 w = true → dGe data k1 w = true := by
  unfold dGe
  cases dscore data w with
  | none => exact id
  | some t => exact fun h' => decide_eq_true (h.trans (of_decide_eq_true h'))

/-- the integer score is a natural number: a threshold below 0 is as good as 0 -/
theorem prob_dGe_toNat {syms : List Nat} {bg : List Rat} {M : Nat} {data : List (List Int)} (k : Int) :
    prob syms bg M (dGe data k) = prob syms bg M (dGe data (k.toNat : Int)) := by
  refine prob_congr _ _ _ _ _ fun w _ => ?_
  unfold dGe
  cases dscore data w with
  | none => rfl
  | some t => exact decide_eq_decide.2 (Int.ofNat_le.trans Int.toNat_le).symm

/-- no mass on `[a, b)`: the tail is the same at both ends -/
theorem prob_dGe_eq_of_no_mass {syms : List Nat} {bg : List Rat} {M : Nat} {data : List (List Int)}
    {a b : Nat} (hab : a ≤ b) (h : ∀ i, a ≤ i → i < b → prob syms bg M (dEq data i) = 0) :
    prob syms bg M (dGe data (a : Int)) = prob syms bg M (dGe data (b : Int)) := by
  induction b, hab using Nat.le_induction with
  | base => rfl
  | succ n hn ih =>
    rw [ih fun i h1 h2 => h i h1 (Nat.lt_succ_of_lt h2), prob_dGe_succ, h n hn n.lt_succ_self, zero_add]

theorem prob_dGe_of_large {N : Nat} {syms : List Nat} {bg : List Rat} {M : Nat} {data : List (List Int)}
    (hwb : ∀ w ∈ words syms M, ∀ t, dscore data w = some t → t ≤ N) {k : Int} (hk : (N : Int) < k) :
    prob syms bg M (dGe data k) = 0 := by
  apply prob_false
  intro w hw
  unfold dGe
  cases hd : dscore data w with
  | none => rfl
  | some t =>
    have htN : (t : Int) ≤ N := Int.ofNat_le.2 (hwb w hw t hd)
    exact decide_eq_false (not_le.2 (htN.trans_lt hk))

end LMV.Dist
