/-
  LMV.Lemmas.BuildSpec — what the column-filling loops of `build_matrix` compute, for any scalar
  type.  Core Lean only.
-/
import LMV.Lemmas.Build

namespace LMV
namespace Io

variable {α : Type} [Inhabited α] {K : Nat}

/-- cells outside column `s` or above row `i` are left alone; row `i + k` of column `s` holds `xs[k]` -/
theorem fillColumn_from (s : Nat) (xs : List α) (m m' : Mat α K) (i : Nat)
    (h : fillColumn m s i xs = some m') :
    (∀ r c, c ≠ s ∨ r < i → m'.get r c = m.get r c) ∧
    ∀ k, k < xs.length → m'.get (i + k) s = xs.getD k default := by
  fun_induction fillColumn m s i xs with
  | case1 => cases h; exact ⟨fun _ _ _ => rfl, nofun⟩
  | case2 m i x xs hc ih =>
    obtain ⟨g1, g2⟩ := ih h
    refine ⟨fun r c hrc => ?_, fun k hk => ?_⟩
    · rw [g1 r c (hrc.imp_right Nat.lt_succ_of_lt), Mat.get_set, if_neg]
      rintro ⟨rfl, rfl, -⟩
      exact hrc.elim (· rfl) (Nat.lt_irrefl _)
    · cases k with
      | zero =>
        rw [Nat.add_zero, g1 i s (.inr (Nat.lt_succ_self i)), Mat.get_set, if_pos ⟨rfl, rfl, hc⟩]
        rfl
      | succ k => rw [← Nat.add_assoc, Nat.add_right_comm, g2 k (Nat.lt_of_succ_lt_succ hk)]; rfl
  | case3 => cases h

theorem fillColumn_get (s : Nat) (xs : List α) (m m' : Mat α K) (h : fillColumn m s 0 xs = some m')
    (r c : Nat) (hr : r < xs.length) :
    m'.get r c = if c = s then xs.getD r default else m.get r c := by
  obtain ⟨g1, g2⟩ := fillColumn_from s xs m m' 0 h
  by_cases hc : c = s
  · rw [hc, ← Nat.zero_add r, g2 r hr, Nat.zero_add, if_pos rfl]
  · rw [g1 r c (.inl hc), if_neg hc]

theorem buildSymLoop_spec (cols : List (Nat × List α)) (m : Mat α K) (done : List Nat)
    (hK : ∀ c ∈ cols, c.1 < K) (hdone : ∀ c ∈ cols, c.1 ∉ done) (hnd : (cols.map (·.1)).Nodup)
    (hlen : ∀ c ∈ cols, c.2.length = m.rows) :
    ∃ m', buildSymLoop m done cols = .ok m' ∧ m'.rows = m.rows ∧
      ∀ r c, r < m.rows → m'.get r c =
        match cols.find? (·.1 == c) with
        | some col => col.2.getD r default
        | none => m.get r c := by
  fun_induction buildSymLoop m done cols with
  | case1 m => exact ⟨m, rfl, rfl, fun r c _ => rfl⟩
  | case2 _ _ _ _ _ hs => exact absurd (hK _ List.mem_cons_self) (Nat.not_lt.mpr hs)
  | case3 _ _ _ _ _ _ hd => exact absurd (List.contains_iff_mem.mp hd) (hdone _ List.mem_cons_self)
  | case4 _ _ _ _ _ _ _ hl => exact absurd (hlen _ List.mem_cons_self) hl
  | case6 _ _ _ _ _ hs _ hl f1 =>
    obtain ⟨_, f1', _⟩ := fillColumn_zero (Nat.not_le.mp hs) (Decidable.of_not_not hl)
    cases f1.symm.trans f1'
  | case5 m done s cs rest _ _ hl m1 f1 ih =>
    have hl : cs.length = m.rows := Decidable.of_not_not hl
    have r1 := fillColumn_rows f1
    have g1 := fillColumn_get s cs m m1 f1
    simp only [List.map_cons, List.nodup_cons] at hnd
    have hrest : ∀ x ∈ rest, x.1 ≠ s := fun x hx e => hnd.1 (e ▸ List.mem_map_of_mem hx)
    obtain ⟨m', b1, b2, b3⟩ := ih (fun c hc => hK c (List.mem_cons_of_mem _ hc))
      (fun c hc => by
        simp only [List.mem_cons, not_or]
        exact ⟨hrest c hc, hdone c (List.mem_cons_of_mem _ hc)⟩)
      hnd.2 (fun c hc => by rw [r1]; exact hlen c (List.mem_cons_of_mem _ hc))
    refine ⟨m', b1, b2.trans r1, fun r c hr => ?_⟩
    rw [b3 r c (r1 ▸ hr)]
    by_cases hcs : s = c
    · subst hcs
      have hfind : rest.find? (·.1 == s) = none :=
        List.find?_eq_none.mpr fun x hx hxs => hrest x hx (by simpa using hxs)
      rw [hfind, List.find?_cons_of_pos (p := fun x : Nat × List α => x.1 == s) (beq_iff_eq.mpr rfl)]
      exact (g1 r s (hl ▸ hr)).trans (if_pos rfl)
    · rw [List.find?_cons_of_neg (p := fun x : Nat × List α => x.1 == c) (by simpa using hcs)]
      cases rest.find? (·.1 == c) with
      | some col => rfl
      | none => exact (g1 r c (hl ▸ hr)).trans (if_neg fun e => hcs e.symm)

end Io
end LMV
