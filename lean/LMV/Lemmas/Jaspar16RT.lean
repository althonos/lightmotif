/-
  LMV.Lemmas.Jaspar16RT — round trip of the JASPAR 2016 format (symbol lines in any order, any
  subset of the alphabet).  The format shares its header line and its lists of counts with the raw
  flavour: those lemmas are `Jaspar.header_render`, `Jaspar.sepList0_render` … of
  `Lemmas/JasparRT.lean`.  Core Lean only.
-/
import LMV.Lemmas.JasparRT

namespace LMV

open Io Nom

namespace Jaspar16

namespace WF

variable {A : Alphabet} {r : Src} (h : WF A r)
include h

theorem header : Jaspar.WFHeader r.id r.description := h.1
theorem ne : r.cols ≠ [] := h.2.1
theorem lt : ∀ c ∈ r.cols, c.1 < A.K := h.2.2.1
theorem nodup : (r.cols.map (·.1)).Nodup := h.2.2.2.1
theorem len : ∀ c ∈ r.cols, c.2.length = (r.cols.headD (0, [])).2.length := h.2.2.2.2.1
theorem counts : ∀ c ∈ r.cols, ∀ x ∈ c.2, x < 4294967296 := h.2.2.2.2.2

end WF

theorem counts_render (xs : List Nat) (hx : ∀ x ∈ xs, x < 4294967296) (rest : Bytes) :
    counts (0x5B :: (Jaspar.renderCounts xs ++ 0x5D :: 0x0A :: rest)) = .ok (0x0A :: rest) xs := by
  have hopen : delimited space0 (tag [0x5B]) space0 (0x5B :: (Jaspar.renderCounts xs ++ 0x5D :: 0x0A :: rest))
      = .ok (Jaspar.renderCounts xs ++ 0x5D :: 0x0A :: rest) [0x5B] := by
    exact delimited_eval (space0_stop 0x5B (by decide) _) (tag_eval [0x5B] _)
      (space0_of_space1_err _ (Jaspar.space1_renderCounts xs 0x5D (by decide) (0x0A :: rest)))
  have hclose : delimited space0 (tag [0x5D]) space0 (0x5D :: 0x0A :: rest) = .ok (0x0A :: rest) [0x5D] :=
    delimited_eval (space0_stop 0x5D (by decide) _) (tag_eval [0x5D] _) (space0_stop 0x0A (by decide) _)
  exact delimited_eval hopen (Jaspar.sepList0_render xs hx 0x5D (by decide) (by decide) _) hclose

theorem matrixColumn_render {A : Alphabet} (hA : A.LettersOK) (c : Nat × List Nat) (hc : c.1 < A.K)
    (hx : ∀ x ∈ c.2, x < 4294967296) (rest : Bytes) :
    matrixColumn A (renderCol A c ++ rest) = .ok rest c := by
  have e : renderCol A c ++ rest = A.letters.getD c.1 0 :: 0x20 :: 0x5B ::
      (Jaspar.renderCounts c.2 ++ 0x5D :: 0x0A :: rest) := List.append_assoc _ [0x5D, 0x0A] rest
  rw [e]
  exact terminated_eval
    (pair_eval (symbol_letter hA c.1 hc _)
      (preceded_eval (space1_blank _ (by decide : isSpace 0x5B = false)) (counts_render c.2 hx rest)))
    (lineEnding_lf rest)

theorem matrixColumn_stop {A : Alphabet} (hA : A.LettersOK) (rest : Bytes)
    (h : rest = [] ∨ rest = [0x3E]) : matrixColumn A rest = .err := by
  rcases h with h | h <;> subst h
  · rfl
  · simp [matrixColumn, terminated, separatedPair, pmap, pair, symbol_mark hA, PRes.map]

theorem many1_render {A : Alphabet} (hA : A.LettersOK) (cols : List (Nat × List Nat))
    (hne : cols ≠ []) (hc : ∀ c ∈ cols, c.1 < A.K) (hx : ∀ c ∈ cols, ∀ x ∈ c.2, x < 4294967296)
    (rest : Bytes) (hr : matrixColumn A rest = .err) :
    many1 (matrixColumn A) (cols.flatMap (renderCol A) ++ rest) = .ok rest cols := by
  have := manyLoop_flatMap (f := matrixColumn A) (ren := renderCol A) (val := id) (P := fun _ => True)
    cols (fun c h rest _ => ⟨matrixColumn_render hA c (hc c h) (hx c h) rest, by simp [renderCol]⟩)
    (fun _ _ _ => trivial) trivial hr []
  simp only [List.map_id_fun, id_eq, List.reverse_nil, List.nil_append] at this
  exact many1_of_manyLoop this hne

theorem buildMatrix_render (A : Alphabet) (r : Src) (h : WF A r) :
    buildMatrix A r.cols = .ok (expect A r).matrix := by
  have hK := h.lt
  have hnd := h.nodup
  have hlen := h.len
  cases hcols : r.cols with
  | nil => exact absurd hcols h.ne
  | cons p rest =>
    rw [hcols] at hK hnd hlen
    unfold buildMatrix
    simp only
    obtain ⟨m', b1, b2, b3⟩ := buildSymLoop_spec (p :: rest)
      ((Mat.empty : Mat Nat A.K).resize p.2.length 0) [] hK (fun _ _ => by simp) hnd
      (fun c hc => by rw [hlen c hc]; simp)
    rw [b1]
    congr 1
    apply Mat.ext
    · rw [b2, Mat.rows_resize, expect, Mat.rows_ofFn, hcols]; rfl
    · intro i j hi hj
      rw [b2] at hi
      simp only [Mat.rows_resize] at hi
      rw [b3 i j (by simpa using hi)]
      simp only [expect, hcols, List.headD_cons, Mat.get_ofFn, hi, hj, and_self, if_true]
      cases List.find? (fun x => x.1 == j) (p :: rest) with
      | some col => rfl
      | none => simp [hi, hj]

theorem record_render {A : Alphabet} (hA : A.LettersOK) (r : Src) (h : WF A r) (rest : Bytes)
    (hr : matrixColumn A rest = .err) :
    record A (render1 A r ++ rest) = .ok rest (.ok (expect A r)) := by
  have e : render1 A r ++ rest = Jaspar.renderHeader r.id r.description ++
      (r.cols.flatMap (renderCol A) ++ rest) := List.append_assoc ..
  rw [e]
  unfold record
  have hm : matrix A (r.cols.flatMap (renderCol A) ++ rest) = .ok rest (.ok (expect A r).matrix) := by
    unfold matrix built
    rw [many1_render hA r.cols h.ne h.lt h.counts rest hr]
    simp only [buildMatrix_render A r h]
  rw [pmap_eval (pair_eval (Jaspar.header_render r.id r.description h.header _) hm)]
  rfl

theorem plain_renderCol {A : Alphabet} (hA : A.LettersOK) (c : Nat × List Nat) (hc : c.1 < A.K) :
    Plain 0x3E (renderCol A c) := by
  exact .cons (hA.ascii hc) (hA.ne_gt hc) (.cons (by decide) (by decide) (.cons (by decide) (by decide)
    ((Jaspar.plain_renderCounts _).append (.ascii (by decide)))))

theorem formatOK {A : Alphabet} (hA : A.LettersOK) :
    Jaspar.FormatOK (record A) (render1 A) (expect A) (WF A) := by
  have hbody : ∀ r, render1 A r = 0x3E :: (r.id ++ (Jaspar.descTail r.description ++ [0x0A]) ++
      r.cols.flatMap (renderCol A)) := by
    intro r
    simp only [render1, Jaspar.renderHeader_eq]
    rfl
  exact {
    head := fun r h => by rw [Jaspar.afterMark, hbody r]; rfl
    plain := fun r h => by
      rw [Jaspar.afterMark, hbody r]
      exact (Jaspar.renderHeader_plain _ _ h.header).append
        (.flatMap fun c hc => plain_renderCol hA c (h.lt c hc))
    ne := fun r h => by
      rw [Jaspar.afterMark, hbody r]
      simp
    parse_ok := fun r h rest hr => record_render hA r h rest (matrixColumn_stop hA rest hr) }

end Jaspar16
end LMV
