/-
  LMV.Lemmas.Discretise — arithmetic behind C08: rounding cells up and the threshold down,
  saturating `u8` sums, the `ERat` operations.
-/
import LMV.Model.Discrete
import Mathlib.Data.Rat.Floor

namespace LMV

/-! ### `Disc.foldE`, the loop with early exit -/

namespace Disc

theorem foldE_ok {β σ : Type} (f : σ → β → Except String σ) (g : σ → β → σ) (l : List β) (s : σ)
    (h : ∀ s b, b ∈ l → f s b = .ok (g s b)) : foldE f l s = .ok (l.foldl g s) := by
  induction l generalizing s with
  | nil => rfl
  | cons b bs ih =>
    simp only [foldE, List.foldl_cons]
    rw [h s b (.head _)]
    exact ih _ (fun s b' hb => h s b' (.tail _ hb))

theorem foldE_congr {β σ : Type} (f g : σ → β → Except String σ) (l : List β) (s : σ)
    (h : ∀ s b, b ∈ l → f s b = g s b) : foldE f l s = foldE g l s := by
  induction l generalizing s with
  | nil => rfl
  | cons b bs ih =>
    simp only [foldE]
    rw [h s b (.head _)]
    cases g s b with
    | error e => rfl
    | ok s' => exact ih s' (fun s b' hb => h s b' (.tail _ hb))

end Disc

namespace C08

open Disc

/-- `ERat.clampU8` (Rust's saturating `as u8`) with values in `ℕ` -/
def clampNat (z : ℤ) : ℕ := if z < 0 then 0 else if 255 < z then 255 else z.toNat

theorem clampNat_eq (z : ℤ) : clampNat z = min 255 z.toNat := by
  fun_cases clampNat z with
  | case1 h1 => rw [Int.toNat_of_nonpos h1.le, Nat.min_zero]
  | case2 h1 h2 =>
    have : 255 ≤ z.toNat := (Int.le_toNat (not_lt.1 h1)).2 h2.le
    exact (Nat.min_eq_left this).symm
  | case3 h1 h2 =>
    have : z.toNat ≤ 255 := Int.toNat_le.2 (not_lt.1 h2)
    exact (Nat.min_eq_right this).symm

theorem clampNat_le (z : ℤ) : clampNat z ≤ 255 := by
  rw [clampNat_eq]; exact Nat.min_le_left _ _

theorem clampNat_mono {a b : ℤ} (h : a ≤ b) : clampNat a ≤ clampNat b := by
  rw [clampNat_eq, clampNat_eq]; exact min_le_min_left _ (Int.toNat_le_toNat h)

theorem clampU8_toNat (z : ℤ) : (ERat.clampU8 z).toNat = clampNat z := by
  unfold ERat.clampU8
  fun_cases clampNat z with
  | case1 h1 => rw [if_pos h1]; rfl
  | case2 h1 h2 => rw [if_neg h1, if_pos h2]; rfl
  | case3 h1 h2 =>
    have : z.toNat < 256 := Nat.lt_succ_of_le (Int.toNat_le.2 (Int.not_lt.1 h2))
    rw [if_neg h1, if_neg h2]
    exact UInt8.toNat_ofNat_of_lt' this

theorem le_clamp_ceil (a : ℚ) (h : clampNat a.ceil < 255) : a ≤ (clampNat a.ceil : ℚ) := by
  rw [clampNat_eq] at h ⊢
  have hn : a.ceil.toNat < 255 := (min_lt_iff.1 h).resolve_left (lt_irrefl _)
  rw [Nat.min_eq_right hn.le]
  have h2 : (a.ceil : ℚ) ≤ ((a.ceil.toNat : ℤ) : ℚ) := Int.cast_mono (Int.self_le_toNat _)
  rw [Int.cast_natCast] at h2
  exact Rat.le_ceil.trans h2

/-- the rounding inequality behind C08: `Σ⌈aⱼ⌉ ≥ ⌊Σ aⱼ⌋`, with saturation at 255 and at 0 on both
    sides -/
theorem clamp_floor_sum_le (as : List ℚ) :
    clampNat as.sum.floor ≤ min 255 ((as.map fun a => clampNat a.ceil).sum) := by
  by_cases hsat : 255 ≤ (as.map fun a => clampNat a.ceil).sum
  · rw [Nat.min_eq_left hsat]; exact clampNat_le _
  · have hlt : (as.map fun a => clampNat a.ceil).sum < 255 := Nat.lt_of_not_le hsat
    rw [Nat.min_eq_right hlt.le]
    -- no cell saturates, so every cell dominates its real
    have hsum : as.sum ≤ (((as.map fun a => clampNat a.ceil).sum : ℕ) : ℚ) := by
      clear hsat
      induction as with
      | nil => exact Nat.cast_nonneg _
      | cons a t ih =>
        simp only [List.map_cons, List.sum_cons] at hlt ⊢
        rw [Nat.cast_add]
        exact add_le_add (le_clamp_ceil a (Nat.lt_of_le_of_lt (Nat.le_add_right _ _) hlt))
          (ih (Nat.lt_of_le_of_lt (Nat.le_add_left _ _) hlt))
    have hz : as.sum.floor ≤ (((as.map fun a => clampNat a.ceil).sum : ℕ) : ℤ) :=
      (Rat.floor_monotone hsum).trans_eq (Rat.floor_intCast _)
    rw [clampNat_eq]
    exact (Nat.min_le_right _ _).trans (Int.toNat_le.2 hz)

/-! ### saturating / wrapping / checked `u8` accumulation -/

theorem addU8_saturating (a b : UInt8) :
    ∃ v, addU8 .saturating a b = .ok v ∧ v.toNat = min 255 (a.toNat + b.toNat) := by
  by_cases h : 255 < a.toNat + b.toNat
  · exact ⟨255, congrArg Except.ok (if_pos h), (Nat.min_eq_left (Nat.le_of_lt h)).symm⟩
  · have hle := Nat.le_of_not_lt h
    refine ⟨a + b, congrArg Except.ok (if_neg h), ?_⟩
    rw [UInt8.toNat_add, Nat.mod_eq_of_lt (Nat.lt_succ_of_le hle), Nat.min_eq_right hle]

theorem min_add_min (n a b : ℕ) : min n (min n a + b) = min n (a + b) := by
  rcases Nat.le_total a n with h | h
  · rw [Nat.min_eq_right h]
  · rw [Nat.min_eq_left h, Nat.min_eq_left (Nat.le_add_right n b),
      Nat.min_eq_left (Nat.le_trans h (Nat.le_add_right a b))]

theorem foldE_saturating {β : Type} (f : β → UInt8) (l : List β) (s : UInt8) :
    ∃ v, foldE (fun s b => addU8 .saturating s (f b)) l s = .ok v ∧
      v.toNat = min 255 (s.toNat + (l.map fun b => (f b).toNat).sum) := by
  induction l generalizing s with
  | nil =>
    refine ⟨s, rfl, ?_⟩
    rw [List.map_nil, List.sum_nil, Nat.add_zero, Nat.min_eq_right (Nat.le_of_lt_succ s.toNat_lt)]
  | cons c cs ih =>
    obtain ⟨v, hv, hvn⟩ := addU8_saturating s (f c)
    obtain ⟨w, hw, hwn⟩ := ih v
    refine ⟨w, ?_, ?_⟩
    · simp only [foldE]; rw [hv]; exact hw
    · rw [hwn, hvn, min_add_min, List.map_cons, List.sum_cons, Nat.add_assoc]

theorem foldE_exact {β : Type} (mode : AddMode) (f : β → UInt8) (l : List β) (s : UInt8)
    (h : s.toNat + (l.map fun b => (f b).toNat).sum ≤ 255) :
    ∃ v, foldE (fun s b => addU8 mode s (f b)) l s = .ok v ∧
      v.toNat = s.toNat + (l.map fun b => (f b).toNat).sum := by
  induction l generalizing s with
  | nil => exact ⟨s, rfl, (Nat.add_zero _).symm⟩
  | cons c cs ih =>
    simp only [List.map_cons, List.sum_cons] at h
    have hle : s.toNat + (f c).toNat ≤ 255 :=
      Nat.le_trans (Nat.add_le_add_left (Nat.le_add_right _ _) _) h
    have hadd : (s + f c).toNat = s.toNat + (f c).toNat := by
      rw [UInt8.toNat_add]; exact Nat.mod_eq_of_lt (Nat.lt_succ_of_le hle)
    have hstep : addU8 mode s (f c) = .ok (s + f c) := by
      cases mode with
      | wrapping => rfl
      | checked => exact if_neg (Nat.not_lt.2 hle)
      | saturating => exact congrArg Except.ok (if_neg (Nat.not_lt.2 hle))
    obtain ⟨w, hw, hwn⟩ := ih (s + f c) (by rw [hadd, Nat.add_assoc]; exact h)
    refine ⟨w, ?_, ?_⟩
    · simp only [foldE]; rw [hstep]; exact hw
    · rw [hwn, hadd, List.map_cons, List.sum_cons, Nat.add_assoc]

theorem dscoreFn_saturating {K : ℕ} (dm : Mat UInt8 K) (sym : ℕ → ℕ) :
    ∃ v, dscoreFn .saturating dm sym = .ok v ∧
      v.toNat = min 255 ((List.range dm.rows).map fun j => (dm.get j (sym j)).toNat).sum := by
  have h := foldE_saturating (fun j => dm.get j (sym j)) (List.range dm.rows) 0
  rwa [UInt8.toNat_zero, Nat.zero_add] at h

theorem dscoreFn_exact (mode : AddMode) {K : ℕ} (dm : Mat UInt8 K) (sym : ℕ → ℕ)
    (h : ((List.range dm.rows).map fun j => (dm.get j (sym j)).toNat).sum ≤ 255) :
    ∃ v, dscoreFn mode dm sym = .ok v ∧
      v.toNat = ((List.range dm.rows).map fun j => (dm.get j (sym j)).toNat).sum := by
  have h' := foldE_exact mode (fun j => dm.get j (sym j)) (List.range dm.rows) 0
  rw [UInt8.toNat_zero, Nat.zero_add] at h'
  exact h' h

/-! ### the `ERat` instance, operation by operation -/

@[simp] theorem add_def (a b : ERat) : ScanScalar.add a b = ERat.add a b := rfl
@[simp] theorem sub_def (a b : ERat) : ScanScalar.sub a b = ERat.sub a b := rfl
@[simp] theorem mul_def (a b : ERat) : ScanScalar.mul a b = ERat.mul a b := rfl
@[simp] theorem div_def (a b : ERat) : ScanScalar.div a b = ERat.div a b := rfl
@[simp] theorem le_def (a b : ERat) : ScanScalar.le a b = ERat.le a b := rfl
@[simp] theorem lt_def (a b : ERat) : ScanScalar.lt a b = ERat.lt a b := rfl
@[simp] theorem isNaN_def (a : ERat) : ScanScalar.isNaN a = false := rfl
@[simp] theorem zero_def : (ScanScalar.zero : ERat) = .fin 0 := rfl
@[simp] theorem sumInit_def : (ScanScalar.sumInit : ERat) = .fin 0 := rfl
@[simp] theorem ofU8_def (b : UInt8) : (ScanScalar.ofU8 b : ERat) = .fin (b.toNat : ℚ) := rfl
@[simp] theorem floorU8_def (a : ERat) : ScanScalar.floorU8 a = ERat.floorU8 a := rfl
@[simp] theorem ceilU8_def (a : ERat) : ScanScalar.ceilU8 a = ERat.ceilU8 a := rfl

@[simp] theorem add_fin (a b : ℚ) : ERat.add (.fin a) (.fin b) = .fin (a + b) := rfl
@[simp] theorem add_bot_right (a : ERat) : ERat.add a .bot = .bot := by cases a <;> rfl
@[simp] theorem add_bot_left (a : ERat) : ERat.add .bot a = .bot := rfl
@[simp] theorem sub_fin (a b : ℚ) : ERat.sub (.fin a) (.fin b) = .fin (a - b) := rfl
@[simp] theorem sub_bot_left (a : ERat) : ERat.sub .bot a = .bot := rfl
@[simp] theorem div_fin (a b : ℚ) : ERat.div (.fin a) (.fin b) = .fin (a / b) := rfl
@[simp] theorem div_bot_left (a : ERat) : ERat.div .bot a = .bot := rfl
@[simp] theorem le_fin (a b : ℚ) : ERat.le (.fin a) (.fin b) = decide (a ≤ b) := rfl
@[simp] theorem lt_fin (a b : ℚ) : ERat.lt (.fin a) (.fin b) = decide (a < b) := rfl
@[simp] theorem le_bot_left (a : ERat) : ERat.le .bot a = true := rfl
@[simp] theorem le_fin_bot (a : ℚ) : ERat.le (.fin a) .bot = false := rfl
@[simp] theorem floorU8_bot : ERat.floorU8 .bot = 0 := rfl
@[simp] theorem ceilU8_bot : ERat.ceilU8 .bot = 0 := rfl
@[simp] theorem floorU8_fin (q : ℚ) : ERat.floorU8 (.fin q) = ERat.clampU8 q.floor := rfl
@[simp] theorem ceilU8_fin (q : ℚ) : ERat.ceilU8 (.fin q) = ERat.clampU8 q.ceil := rfl

theorem foldl_add_fin (qs : List ℚ) (s : ℚ) :
    (qs.map ERat.fin).foldl ERat.add (.fin s) = .fin (s + qs.sum) := by
  induction qs generalizing s with
  | nil => exact congrArg ERat.fin (add_zero s).symm
  | cons q qs ih => rw [List.map_cons, List.foldl_cons, add_fin, ih, List.sum_cons, add_assoc]

theorem foldl_add_bot (es : List ERat) : es.foldl ERat.add .bot = .bot :=
  List.foldlRecOn es _ (motive := (· = ERat.bot)) rfl fun _ h _ _ => by rw [h]; rfl

theorem foldl_add_of_bot_mem (es : List ERat) (s : ERat) (h : ERat.bot ∈ es) :
    es.foldl ERat.add s = .bot := by
  induction es generalizing s with
  | nil => simp at h
  | cons e es ih =>
    simp only [List.foldl_cons]
    rcases List.mem_cons.mp h with h | h
    · rw [← h, add_bot_right, foldl_add_bot]
    · exact ih _ h

end C08

/-! ### the order of `ERat`: what the maximum kernels (`Cmp.Total`) and the scanner (`OrderLaws`) ask -/

namespace ERat

theorem le_total (a b : ERat) : le a b = true ∨ le b a = true := by
  cases a <;> cases b <;> simp [le]
  exact _root_.le_total _ _

theorem le_trans : ∀ a b c : ERat, le a b = true → le b c = true → le a c = true
  | bot, _, _ => fun _ _ => rfl
  | fin _, bot, _ => fun h => nomatch h
  | fin _, fin _, bot => fun _ h => nomatch h
  | fin _, fin _, fin _ => fun h1 h2 =>
    decide_eq_true (_root_.le_trans (of_decide_eq_true h1) (of_decide_eq_true h2))

theorem lt_eq_not_le : ∀ a b : ERat, lt a b = !le b a
  | bot, bot | fin _, bot | bot, fin _ => rfl
  | fin _, fin _ => (decide_eq_decide.mpr not_le.symm).trans (decide_not ..)

end ERat
end LMV
