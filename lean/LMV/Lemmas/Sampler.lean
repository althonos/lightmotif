/-
  LMV.Lemmas.Sampler — for C16: the counts the property speaks of (`winCount`, `symCount`,
  `outCount`: the vocabulary in which `Inv` and `Data.WF` are stated), counter arrays, closed forms
  of the sampler's update loops.  Core Lean only.
-/
import LMV.Model.Sampler
import LMV.Lemmas.Sums

namespace LMV
namespace Sampler

theorem forUp_inv {σ : Type} (P : Nat → σ → Prop) (n : Nat) (f : Nat → σ → R σ) (s : σ)
    (h0 : P 0 s)
    (hs : ∀ j t, j < n → P j t → ∃ t', f j t = .ok t' ∧ P (j + 1) t') :
    ∃ t, forUp n f s = .ok t ∧ P n t := by
  induction n with
  | zero => exact ⟨s, rfl, h0⟩
  | succ n ih =>
    obtain ⟨t, ht, hp⟩ := ih (fun j t hj => hs j t (Nat.lt_succ_of_lt hj))
    obtain ⟨t', ht', hp'⟩ := hs n t (Nat.lt_succ_self n) hp
    exact ⟨t', by simp only [forUp, ht, ht'], hp'⟩

/-! ### arrays as counters -/

theorem getD_setIfInBounds {α : Type} (a : Array α) (i j : Nat) (x d : α) :
    (a.setIfInBounds i x).getD j d = if i = j ∧ i < a.size then x else a.getD j d := by
  by_cases h : i = j
  · subst h
    by_cases h2 : i < a.size
    · simp [h2]
    · simp [h2]
  · simp [h]

theorem getD_set_fun {α : Type} (a : Array α) (z : Nat) (b d : α) (hz : z < a.size) :
    (fun i => (a.setIfInBounds z b).getD i d) = fun i => if i = z then b else a.getD i d := by
  funext i
  rw [getD_setIfInBounds]
  by_cases e : i = z
  · rw [if_pos ⟨e.symm, hz⟩, if_pos e]
  · rw [if_neg (fun h => e h.1.symm), if_neg e]

theorem setIfInBounds_getD_self {α : Type} (a : Array α) (i : Nat) (d : α) :
    a.setIfInBounds i (a.getD i d) = a := by
  apply Array.ext
  · simp
  · intro k h1 h2
    rw [Array.getElem_setIfInBounds]
    by_cases e : i = k
    · subst e; rw [if_pos rfl]; exact dif_pos h2
    · rw [if_neg e]

/-! ### what "the counts of an alignment" means (the property's words as definitions) -/

/-- occurrences of symbol `c` in the `w`-long window of `seq` at `start` -/
def winCount (seq : Array Nat) (start w c : Nat) : Nat :=
  sumTo w (fun j => if seq.getD (start + j) 0 = c then 1 else 0)

/-- occurrences of `c` in the whole sequence -/
def symCount (seq : Array Nat) (c : Nat) : Nat :=
  sumTo seq.size (fun k => if seq.getD k 0 = c then 1 else 0)

/-- occurrences of `c` in the sequence outside the window -/
def outCount (seq : Array Nat) (start w c : Nat) : Nat :=
  sumTo seq.size (fun k => if (k < start ∨ start + w ≤ k) ∧ seq.getD k 0 = c then 1 else 0)

theorem winCount_succ (seq : Array Nat) (start w c : Nat) :
    winCount seq start (w + 1) c = winCount seq start w c + (if seq.getD (start + w) 0 = c then 1 else 0) := rfl

theorem symCount_eq (seq : Array Nat) (start w c : Nat) (h : start + w ≤ seq.size) :
    symCount seq c = outCount seq start w c + winCount seq start w c := by
  unfold symCount outCount winCount
  rw [← sumTo_window seq.size start w (fun k => if seq.getD k 0 = c then 1 else 0) h, ← sumTo_add]
  apply sumTo_congr
  intro k _
  by_cases h1 : start ≤ k ∧ k < start + w
  · have : ¬ (k < start ∨ start + w ≤ k) := fun h => h.elim (Nat.not_lt.mpr h1.1) (Nat.not_le.mpr h1.2)
    rw [if_pos h1, if_neg (this ∘ And.left), Nat.zero_add]
  · have : k < start ∨ start + w ≤ k :=
      (Nat.lt_or_ge k start).imp_right fun h => Nat.not_lt.mp fun h' => h1 ⟨h, h'⟩
    rw [if_neg h1, Nat.add_zero]; simp only [this, true_and]

theorem outCount_pos (seq : Array Nat) (start w : Nat) (hl : w < seq.size) :
    ∃ k, k < seq.size ∧ 0 < outCount seq start w (seq.getD k 0) := by
  have hk : ∃ k, k < seq.size ∧ (k < start ∨ start + w ≤ k) := by
    rcases Nat.eq_zero_or_pos start with h0 | h0
    · exact ⟨start + w, by rw [h0, Nat.zero_add]; exact hl, .inr (Nat.le_refl _)⟩
    · exact ⟨0, Nat.zero_lt_of_lt hl, .inl h0⟩
  obtain ⟨k, hk1, hk2⟩ := hk
  refine ⟨k, hk1, ?_⟩
  unfold outCount
  have := sumTo_term_le (fun k' => if (k' < start ∨ start + w ≤ k') ∧ seq.getD k' 0 = seq.getD k 0 then 1 else 0) hk1
  simp only [hk2, true_and, if_true] at this
  exact this

/-! ### loops that add to, or take from, a table of counters

  `rd t c` reads counter `c` of the loop state `t` (an entry of a `GenericArray`, a cell of a
  `DenseMatrix`), `ok` is what the steps need of the state (its shape), and step `j` moves counter
  `c` by `d j c`.  Every update loop of the sampler, and the two loop nests of `_new` and of
  `count_symbols`, is one of these.  A subtracting loop needs no invariant of its own against
  underflow: from the one hypothesis `hav` (the whole amount is there at the start) `forUp_sub` hands
  each step `d j c ≤ rd t c`. -/

theorem forUp_add {σ ι : Type} (ok : σ → Prop) (rd : σ → ι → Nat) (d : Nat → ι → Nat)
    (n : Nat) (f : Nat → σ → R σ) (s : σ) (h0 : ok s)
    (hs : ∀ j t, j < n → ok t → ∃ t', f j t = .ok t' ∧ ok t' ∧ ∀ c, rd t' c = rd t c + d j c) :
    ∃ t, forUp n f s = .ok t ∧ ok t ∧ ∀ c, rd t c = rd s c + sumTo n (fun j => d j c) := by
  apply forUp_inv (fun k t => ok t ∧ ∀ c, rd t c = rd s c + sumTo k (fun j => d j c))
  · exact ⟨h0, fun _ => rfl⟩
  · intro j t hj ⟨ht, hc⟩
    obtain ⟨t', h1, h2, h3⟩ := hs j t hj ht
    exact ⟨t', h1, h2, fun c => by rw [h3, hc, sumTo_succ, Nat.add_assoc]⟩

theorem forUp_sub {σ ι : Type} (ok : σ → Prop) (rd : σ → ι → Nat) (d : Nat → ι → Nat)
    (n : Nat) (f : Nat → σ → R σ) (s : σ) (h0 : ok s)
    (hav : ∀ c, sumTo n (fun j => d j c) ≤ rd s c)
    (hs : ∀ j t, j < n → ok t → (∀ c, d j c ≤ rd t c) →
      ∃ t', f j t = .ok t' ∧ ok t' ∧ ∀ c, rd t' c + d j c = rd t c) :
    ∃ t, forUp n f s = .ok t ∧ ok t ∧ ∀ c, rd t c + sumTo n (fun j => d j c) = rd s c := by
  apply forUp_inv (fun k t => ok t ∧ ∀ c, rd t c + sumTo k (fun j => d j c) = rd s c)
  · exact ⟨h0, fun _ => rfl⟩
  · intro j t hj ⟨ht, hc⟩
    obtain ⟨t', h1, h2, h3⟩ := hs j t hj ht (fun c => by
      have h : sumTo (j + 1) (fun j => d j c) ≤ rd s c :=
        Nat.le_trans (sumTo_mono_n (fun j => d j c) hj) (hav c)
      rw [sumTo_succ, ← hc c, Nat.add_comm] at h; exact Nat.le_of_add_le_add_right h)
    exact ⟨t', h1, h2, fun c => by
      rw [sumTo_succ, ← hc c, ← h3 c, Nat.add_assoc, Nat.add_comm (d j c)]⟩

/-! ### the single updates -/

theorem addAt_ok {K : Nat} (a : Array Nat) (i x : Nat) (ha : a.size = K) (h : i < K) :
    ∃ a', addAt a i x = .ok a' ∧ a'.size = K ∧
      ∀ c, a'.getD c 0 = a.getD c 0 + (if i = c then x else 0) := by
  subst ha
  refine ⟨_, if_pos h, by simp, fun c => ?_⟩
  rw [getD_setIfInBounds]
  by_cases e : i = c
  · subst e; rw [if_pos ⟨rfl, h⟩, if_pos rfl]
  · rw [if_neg (fun hh => e hh.1), if_neg e]; rfl

theorem subAt_ok {K : Nat} (a : Array Nat) (i x : Nat) (ha : a.size = K) (h : i < K)
    (hx : x ≤ a.getD i 0) :
    ∃ a', subAt a i x = .ok a' ∧ a'.size = K ∧
      ∀ c, a'.getD c 0 + (if i = c then x else 0) = a.getD c 0 := by
  subst ha
  refine ⟨_, by rw [subAt, if_pos h, if_pos hx], by simp, fun c => ?_⟩
  rw [getD_setIfInBounds]
  by_cases e : i = c
  · subst e; rw [if_pos ⟨rfl, h⟩, if_pos rfl]; exact Nat.sub_add_cancel hx
  · rw [if_neg (fun hh => e hh.1), if_neg e]; rfl

theorem cellInd_ne {r c r' c' : Nat} (e : ¬ (r' = r ∧ c' = c)) :
    (if r = r' then (if c = c' then 1 else 0) else 0) = 0 := by
  by_cases e1 : r = r'
  · rw [if_pos e1, if_neg (fun e2 => e ⟨e1.symm, e2.symm⟩)]
  · rw [if_neg e1]

theorem incCell_ok {K : Nat} (m : Mat Nat K) (r c : Nat) (hr : r < m.rows) (hc : c < K) :
    ∃ m', incCell m r c = .ok m' ∧ m'.rows = m.rows ∧ ∀ r' c',
      m'.get r' c' = m.get r' c' + (if r = r' then (if c = c' then 1 else 0) else 0) := by
  refine ⟨_, if_pos ⟨hr, hc⟩, Mat.rows_set .., fun r' c' => ?_⟩
  rw [Mat.get_set]
  by_cases e : r' = r ∧ c' = c
  · obtain ⟨rfl, rfl⟩ := e; rw [if_pos ⟨rfl, rfl, hr, hc⟩, if_pos rfl, if_pos rfl]
  · rw [if_neg (fun h => e ⟨h.1, h.2.1⟩), cellInd_ne e]; rfl

theorem decCell_ok {K : Nat} (m : Mat Nat K) (r c : Nat) (hr : r < m.rows) (hc : c < K)
    (h1 : 1 ≤ m.get r c) :
    ∃ m', decCell m r c = .ok m' ∧ m'.rows = m.rows ∧ ∀ r' c',
      m'.get r' c' + (if r = r' then (if c = c' then 1 else 0) else 0) = m.get r' c' := by
  refine ⟨_, by rw [decCell, if_pos ⟨hr, hc⟩, if_pos h1], Mat.rows_set .., fun r' c' => ?_⟩
  rw [Mat.get_set]
  by_cases e : r' = r ∧ c' = c
  · obtain ⟨rfl, rfl⟩ := e
    rw [if_pos ⟨rfl, rfl, hr, hc⟩, if_pos rfl, if_pos rfl]; exact Nat.sub_add_cancel h1
  · rw [if_neg (fun h => e ⟨h.1, h.2.1⟩), cellInd_ne e]; rfl

theorem symAt_ok (seq : Array Nat) (k : Nat) (h : k < seq.size) : symAt seq k = .ok (seq.getD k 0) :=
  if_pos h

theorem window_lt {start w n j : Nat} (hin : start + w ≤ n) (hj : j < w) : start + j < n :=
  Nat.lt_of_lt_of_le (Nat.add_lt_add_left hj _) hin

theorem ite_zero_le {p : Prop} [Decidable p] {a b : Nat} (h : p → a ≤ b) : (if p then a else 0) ≤ b := by
  by_cases hp : p
  · rw [if_pos hp]; exact h hp
  · rw [if_neg hp]; exact Nat.zero_le b

/-! ### closed forms of the update loops -/

theorem bgAddWindow_ok {K : Nat} (seq : Array Nat) (start w : Nat) (b : Array Nat)
    (hb : b.size = K) (hin : start + w ≤ seq.size) (hsym : ∀ k, k < seq.size → seq.getD k 0 < K) :
    ∃ b', bgAddWindow seq start w b = .ok b' ∧ b'.size = K ∧
      ∀ c, b'.getD c 0 = b.getD c 0 + winCount seq start w c := by
  apply forUp_add (fun t : Array Nat => t.size = K) (fun t c => t.getD c 0) _ _ _ _ hb
  intro j t hj ht
  rw [symAt_ok _ _ (window_lt hin hj)]
  exact addAt_ok t _ 1 ht (hsym _ (window_lt hin hj))

theorem bgSubWindow_ok {K : Nat} (seq : Array Nat) (start w : Nat) (b : Array Nat)
    (hb : b.size = K) (hin : start + w ≤ seq.size) (hsym : ∀ k, k < seq.size → seq.getD k 0 < K)
    (hav : ∀ c, c < K → winCount seq start w c ≤ b.getD c 0) :
    ∃ b', bgSubWindow seq start w b = .ok b' ∧ b'.size = K ∧
      ∀ c, b'.getD c 0 + winCount seq start w c = b.getD c 0 := by
  apply forUp_sub (fun t : Array Nat => t.size = K) (fun t c => t.getD c 0) _ _ _ _ hb
  · intro c
    by_cases hc : c < K
    · exact hav c hc
    · -- no symbol of the window is `≥ K`
      exact Nat.le_trans (Nat.le_of_eq
        (sumTo_eq_zero.mpr fun j hj => if_neg fun e => hc (by rw [← e]; exact hsym _ (window_lt hin hj))))
        (Nat.zero_le _)
  · intro j t hj ht hd
    rw [symAt_ok _ _ (window_lt hin hj)]
    exact subAt_ok t _ 1 ht (hsym _ (window_lt hin hj))
      (by simpa only [eq_self, if_true] using hd (seq.getD (start + j) 0))

theorem addCounts_ok {K : Nat} (counts b : Array Nat) (hc : counts.size = K) (hb : b.size = K) :
    ∃ b', addCounts K counts b = .ok b' ∧ b'.size = K ∧
      ∀ c, c < K → b'.getD c 0 = b.getD c 0 + counts.getD c 0 := by
  -- step `j` moves counter `j` only, so the sum of `forUp_add` collapses by `sumTo_single`; the
  -- window loops below do the same with cells `(j, ·)`, counters indexed by `Nat × Nat`
  refine (forUp_add (fun t : Array Nat => t.size = K) (fun t c => t.getD c 0)
    (fun j c => if j = c then counts.getD j 0 else 0) K _ b hb fun j t hj ht => ?_).imp
    fun b' ⟨h1, h2, h3⟩ => ⟨h1, h2, fun c hc => by rw [h3, sumTo_single, if_pos hc]⟩
  rw [if_pos (hc ▸ hj)]; exact addAt_ok t j _ ht hj

theorem subCounts_ok {K : Nat} (counts b : Array Nat) (hc : counts.size = K) (hb : b.size = K)
    (hav : ∀ c, c < K → counts.getD c 0 ≤ b.getD c 0) :
    ∃ b', subCounts K counts b = .ok b' ∧ b'.size = K ∧
      ∀ c, c < K → b'.getD c 0 + counts.getD c 0 = b.getD c 0 := by
  refine (forUp_sub (fun t : Array Nat => t.size = K) (fun t c => t.getD c 0)
    (fun j c => if j = c then counts.getD j 0 else 0) K _ b hb
    (fun c => by rw [sumTo_single]; exact ite_zero_le (hav c))
    fun j t hj ht hd => ?_).imp
    fun b' ⟨h1, h2, h3⟩ => ⟨h1, h2, fun c hc => by rw [← h3, sumTo_single, if_pos hc]⟩
  rw [if_pos (hc ▸ hj)]; exact subAt_ok t j _ ht hj (by simpa only [eq_self, if_true] using hd j)

/-- `bg += counts` then `bg -= window`, with the true symbol counts: adds what lies outside the
    window.  About the two calls, not about the model's `addOutside`, because `include_sequence`
    makes them inline (`_new` goes through `addOutside`, which unfolds to them). -/
theorem addCounts_bgSubWindow_ok {K : Nat} (counts seq : Array Nat) (start w : Nat) (b : Array Nat)
    (hc : counts.size = K) (hb : b.size = K) (hin : start + w ≤ seq.size)
    (hsym : ∀ k, k < seq.size → seq.getD k 0 < K)
    (hcnt : ∀ c, c < K → counts.getD c 0 = symCount seq c) :
    ∃ b1 b2, addCounts K counts b = .ok b1 ∧ bgSubWindow seq start w b1 = .ok b2 ∧ b2.size = K ∧
      ∀ c, c < K → b2.getD c 0 = b.getD c 0 + outCount seq start w c := by
  have hS := fun c hc => (hcnt c hc).trans (symCount_eq seq start w c hin)
  obtain ⟨b1, h1, h2, h3⟩ := addCounts_ok counts b hc hb
  obtain ⟨b2, h4, h5, h6⟩ := bgSubWindow_ok seq start w b1 h2 hin hsym
    (fun c hc => by
      rw [h3 c hc, hS c hc]; exact Nat.le_trans (Nat.le_add_left _ _) (Nat.le_add_left _ _))
  exact ⟨b1, b2, h1, h4, h5, fun c hc => by
    have := h6 c; rw [h3 c hc, hS c hc, ← Nat.add_assoc] at this; exact Nat.add_right_cancel this⟩

theorem bgAddWindow_subCounts_ok {K : Nat} (counts seq : Array Nat) (start w : Nat) (b : Array Nat)
    (hc : counts.size = K) (hb : b.size = K) (hin : start + w ≤ seq.size)
    (hsym : ∀ k, k < seq.size → seq.getD k 0 < K)
    (hcnt : ∀ c, c < K → counts.getD c 0 = symCount seq c)
    (hav : ∀ c, c < K → outCount seq start w c ≤ b.getD c 0) :
    ∃ b1 b2, bgAddWindow seq start w b = .ok b1 ∧ subCounts K counts b1 = .ok b2 ∧ b2.size = K ∧
      ∀ c, c < K → b2.getD c 0 + outCount seq start w c = b.getD c 0 := by
  have hS := fun c hc => (hcnt c hc).trans (symCount_eq seq start w c hin)
  obtain ⟨b1, h1, h2, h3⟩ := bgAddWindow_ok seq start w b hb hin hsym
  obtain ⟨b2, h4, h5, h6⟩ := subCounts_ok counts b1 hc h2
    (fun c hc => by rw [h3, hS c hc]; exact Nat.add_le_add_right (hav c hc) _)
  exact ⟨b1, b2, h1, h4, h5, fun c hc => by
    have := h6 c hc; rw [h3, hS c hc, ← Nat.add_assoc] at this; exact Nat.add_right_cancel this⟩

theorem addWindow_ok {K : Nat} (seq : Array Nat) (start w : Nat) (m : Mat Nat K)
    (hrows : m.rows = w) (hin : start + w ≤ seq.size) (hsym : ∀ k, k < seq.size → seq.getD k 0 < K) :
    ∃ m', addWindow seq start w m = .ok m' ∧ m'.rows = w ∧
      ∀ r c, m'.get r c = m.get r c +
        (if r < w then (if seq.getD (start + r) 0 = c then 1 else 0) else 0) := by
  refine (forUp_add (fun t : Mat Nat K => t.rows = w) (fun t (p : Nat × Nat) => t.get p.1 p.2)
    (fun j p => if j = p.1 then (if seq.getD (start + j) 0 = p.2 then 1 else 0) else 0) w _ m hrows
    fun j t hj ht => ?_).imp
    fun m' ⟨h1, h2, h3⟩ => ⟨h1, h2, fun r c => by rw [h3 (r, c), sumTo_single]⟩
  rw [symAt_ok _ _ (window_lt hin hj)]
  obtain ⟨t', h1, h2, h3⟩ := incCell_ok t j (seq.getD (start + j) 0) (ht ▸ hj) (hsym _ (window_lt hin hj))
  exact ⟨t', h1, h2.trans ht, fun p => h3 p.1 p.2⟩

theorem subWindow_ok {K : Nat} (seq : Array Nat) (start w : Nat) (m : Mat Nat K)
    (hrows : m.rows = w) (hin : start + w ≤ seq.size) (hsym : ∀ k, k < seq.size → seq.getD k 0 < K)
    (hav : ∀ j, j < w → 1 ≤ m.get j (seq.getD (start + j) 0)) :
    ∃ m', subWindow seq start w m = .ok m' ∧ m'.rows = w ∧
      ∀ r c, m'.get r c +
        (if r < w then (if seq.getD (start + r) 0 = c then 1 else 0) else 0) = m.get r c := by
  refine (forUp_sub (fun t : Mat Nat K => t.rows = w) (fun t (p : Nat × Nat) => t.get p.1 p.2)
    (fun j p => if j = p.1 then (if seq.getD (start + j) 0 = p.2 then 1 else 0) else 0) w _ m hrows
    (fun p => by
      rw [sumTo_single]; exact ite_zero_le fun h1 => ite_zero_le fun h2 => h2 ▸ hav _ h1)
    fun j t hj ht hd => ?_).imp
    fun m' ⟨h1, h2, h3⟩ => ⟨h1, h2, fun r c => by rw [← h3 (r, c), sumTo_single]⟩
  rw [symAt_ok _ _ (window_lt hin hj)]
  obtain ⟨t', h1, h2, h3⟩ := decCell_ok t j (seq.getD (start + j) 0) (ht ▸ hj) (hsym _ (window_lt hin hj))
    (by simpa only [eq_self, if_true] using hd (j, seq.getD (start + j) 0))
  exact ⟨t', h1, h2.trans ht, fun p => h3 p.1 p.2⟩

end Sampler
end LMV
