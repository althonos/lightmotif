/-
  LMV.Lemmas.ScoreSse2 — the SSE2 scoring kernel, lane by lane.

  `IdentityTable` is the finite statement about the tables regenerated from sse2.rs: through the
  unpack chain `x → hi/lo → x1..x4`, lane `l` of the index vector of accumulator `q` is the
  zero-extended byte `c` of the 16 loaded symbols, and the store of that accumulator lane goes to
  column `c` of the block — for all 16 columns (`decide +kernel`).  The compare-and-mask
  accumulation over the `K` symbols equals ONE addition of the matching entry under the single law
  `add x zero = x`.
-/
import LMV.Lemmas.Score

namespace LMV
namespace Score
namespace Sse2

open Isa
open Mat (Patch)

variable {α : Type} {C K : Nat}

/-! ### the index table -/

/-- the byte of `x` that dword lane `l` of register `r` holds (zero-extended): defined when the
    lane's four bytes are (byte `c` of `x`, zero, zero, zero) -/
def regCol (r l : Nat) : Option Nat :=
  match chainSrc chainRev r (4 * l), chainSrc chainRev r (4 * l + 1),
        chainSrc chainRev r (4 * l + 2), chainSrc chainRev r (4 * l + 3) with
  | some c, none, none, none => some c
  | _, _, _, _ => none

/-- for column `c` of a 16-column block: (accumulator, lane, byte of `x` selecting the symbol) -/
def colSrc (c : Nat) : Option (Nat × Nat × Nat) :=
  match lastStore 4 Gen.Sse2Score.stores c with
  | none => none
  | some (q, l) =>
    if q < 4 ∧ l < 4 then (regCol (Gen.Sse2Score.accReg.getD q 0) l).map fun c' => (q, l, c') else none

/-- the complete table of one 16-column pass (second conjunct: no store reaches beyond the 16 columns
    of its pass) -/
def IdentityTable : Prop :=
  Gen.Sse2Score.lanes = 16 ∧
  (∀ op ∈ Gen.Sse2Score.stores, op.1 + 4 ≤ 16) ∧
  ∀ c, c < 16 → (colSrc c).map (fun x => x.2.2) = some c

instance : Decidable IdentityTable := by unfold IdentityTable; infer_instance

theorem sse2_table : IdentityTable := by decide +kernel

/-! ### from the table to the lanes of the kernel -/

theorem idxVec_of_regCol (q l c : Nat) (h : regCol (Gen.Sse2Score.accReg.getD q 0) l = some c)
    (x : Nat → Nat) : idxVec x q l = x c := by
  revert h
  fun_cases regCol (Gen.Sse2Score.accReg.getD q 0) l with
  | case1 _ h0 h1 h2 h3 =>
    intro h; cases h
    apply dwordLE_single <;> simp only [regByte, h0, h1, h2, h3]
  | case2 => nofun

theorem colSrc_spec (hT : IdentityTable) (c : Nat) (hc : c < 16) :
    ∃ q l, lastStore 4 Gen.Sse2Score.stores c = some (q, l) ∧ q < 4 ∧ l < 4 ∧
      regCol (Gen.Sse2Score.accReg.getD q 0) l = some c := by
  have h := hT.2.2 c hc
  revert h
  fun_cases colSrc c with
  | case2 q l h1 h3 =>
    -- the one exit that is not `none`: a last store `(q, l)`, in range
    rw [Option.map_map]
    intro h
    obtain ⟨c', h4, rfl⟩ := Option.map_eq_some_iff.mp h
    exact ⟨q, l, h1, h3.1, h3.2, h4⟩
  | _ => nofun

/-- the compare-and-mask accumulation over the `K` symbols adds the matching entry once and `zero`
    `K − 1` times: ONE addition under the law `add x zero = x` -/
theorem mask_fold (zero : α) (add : α → α → α) (hz : ∀ x, add x zero = x) (f : Nat → α) (sym n : Nat)
    (v : α) :
    (List.range n).foldl (fun v k => add v (andPsMask zero (f k) (sym == k))) v =
      if sym < n then add v (f sym) else v := by
  rw [foldl_range_single _ sym n fun v k _ hk => by
    rw [show (sym == k) = false from beq_false_of_ne (Ne.symm hk)]; exact hz v]
  simp only [andPsMask, beq_self_eq_true, if_true]

theorem accRow_rd (zero : α) (add : α → α → α) (pssm : Mat α K) (seq : Mat Nat C) (offset i q l : Nat)
    (hq : q < 4) (hl : l < 4) :
    rd zero (accRow zero add pssm seq offset i) q l =
      (List.range pssm.rows).foldl (fun v j =>
        (List.range K).foldl (fun v k =>
          add v (andPsMask zero (pssm.getD j k zero)
            (idxVec (fun b => seq.getD (i + j) (offset + b) 0) q l == k))) v) zero := by
  refine (List.foldl_hom (fun s => rd zero s q l)
    (g₂ := fun v j => (List.range K).foldl (fun v k =>
      add v (andPsMask zero (pssm.getD j k zero)
        (idxVec (fun b => seq.getD (i + j) (offset + b) 0) q l == k))) v)
    fun s j => ?_).symm.trans ?_
  · dsimp only
    refine List.foldl_hom (fun s => rd zero s q l) fun s k => ?_
    rw [rd_tab zero 4 4 _ q l hq hl, cmpeqEpi32, rd_tab 0 4 4 _ q l hq hl]
  · rw [rd_tab zero 4 4 _ q l hq hl]

/-- **the SSE2 kernel fills the rows of the scan**, like the generic loops, for every column count
    that is a multiple of 16, under the single law `add x zero = x` -/
theorem kernel_patch (hT : IdentityTable) (zero : α) (add : α → α → α) (hz : ∀ x, add x zero = x)
    (pssm : Mat α K) (hC : 16 ∣ C) (seq : Mat Nat C) (a n : Nat) (d : Mat α C)
    (hsym : ∀ k j col, k < n → j < pssm.rows → col < C → seq.getD (a + k + j) col 0 < K) :
    Patch d (kernel zero add pssm seq a n d) (fun r _ => r < n) (scanCell zero add pssm seq a) := by
  unfold kernel
  rw [hT.1]
  -- pass `blk` writes the columns `16·blk .. 16·blk + 16`, iteration `k` of it row `k`
  let B (blk c : Nat) : Prop := blk * 16 ≤ c ∧ c < blk * 16 + 16
  refine Patch.range _ (fun blk r c => r < n ∧ B blk c) d _ (fun blk _ d' _ =>
    Patch.range _ (fun k r c => r = k ∧ B blk c) d' n (fun k hk d'' _ => ?_)
      fun r c _ _ => ⟨fun h => ⟨r, h.1, rfl, h.2⟩, by rintro ⟨_, hk, h⟩; exact ⟨h.1 ▸ hk, h.2⟩⟩)
    fun r c _ hc => ⟨fun h => ⟨c / 16, Nat.div_lt_div_of_lt_of_dvd hC hc, h, Nat.div_mul_le_self c 16,
      Nat.lt_div_mul_add (by decide)⟩, by rintro ⟨_, _, h⟩; exact h.1⟩
  refine Patch.vals (fun r c _ _ h => by rw [h.1]) <|
    stores_patch 4 k (blk * 16) Gen.Sse2Score.stores
      (rd zero (accRow zero add pssm seq (blk * 16) (a + k)))
      (B blk) (scanCell zero add pssm seq a k) d''
      (fun c hc hin => ?_)
      -- beyond the 16 columns of the pass no store reaches
      fun c hc hout hb => lastStore_none 4 _ _ fun op hop h =>
        have hlt : c - blk * 16 < 16 := Nat.lt_of_lt_of_le h.2 (hT.2.1 op hop)
        hout ⟨hb, (Nat.sub_lt_iff_lt_add' hb).mp hlt⟩
  obtain ⟨q, l, h1, hq, hl, h2⟩ := colSrc_spec hT (c - blk * 16)
    (Nat.sub_lt_left_of_lt_add hin.1 hin.2)
  refine ⟨q, l, hin.1, h1, ?_⟩
  rw [accRow_rd zero add pssm seq (blk * 16) (a + k) q l hq hl]
  apply foldl_ext_mem
  intro v j hj
  rw [idxVec_of_regCol q l (c - blk * 16) h2, mask_fold zero add hz,
    Nat.add_sub_cancel' hin.1,
    if_pos (hsym k j c hk (List.mem_range.mp hj) hc)]

/-! ### executing the unpack chain step by step = reading through the index map

Not on the path of `kernel_patch`: the model (`Sse2.regByte`) reads the loaded bytes through
`chainSrc`, and this is why it may. -/

/-- one `dst = _mm_unpack{lo,hi}_epi8(a, b)` on a register file over any carrier -/
def stepRun {β : Type} (zero : β) (st : Nat × Bool × Nat × Nat) (regs : Nat → Nat → β) : Nat → Nat → β :=
  fun r b => if r = st.1 then Isa.apply zero (mmUnpackEpi8 st.2.1) (regs st.2.2.1) (regs st.2.2.2) b
    else regs r b

/-- the chain in program order -/
def chainRun {β : Type} (zero : β) : List (Nat × Bool × Nat × Nat) → (Nat → Nat → β) → (Nat → Nat → β)
  | [], regs => regs
  | st :: rest, regs => chainRun zero rest (stepRun zero st regs)

/-- the initial register file: register 0 holds `x`, every other register (`zero`) zero bytes -/
def initRegs {β : Type} (zero : β) (x : Nat → β) : Nat → Nat → β := fun r b => if r = 0 then x b else zero

def readSrc {β : Type} (zero : β) (x : Nat → β) : Option Nat → β
  | some k => x k
  | none => zero

theorem chainRun_append {β : Type} (zero : β) (l1 l2 : List (Nat × Bool × Nat × Nat)) (regs : Nat → Nat → β) :
    chainRun zero (l1 ++ l2) regs = chainRun zero l2 (chainRun zero l1 regs) := by
  induction l1 generalizing regs with
  | nil => rfl
  | cons st rest ih => exact ih (stepRun zero st regs)

/-- running the extracted steps on data of ANY carrier reads the loaded bytes through `chainSrc`.
    No theorem chains through this: it justifies modelling a straight-line sequence of validated
    intrinsics by its index map instead of by running it. -/
theorem chainRun_eq_chainSrc {β : Type} (zero : β) (x : Nat → β) (chain : List (Nat × Bool × Nat × Nat))
    (r b : Nat) :
    chainRun zero chain (initRegs zero x) r b = readSrc zero x (chainSrc chain.reverse r b) := by
  induction chain using list_snoc_induction generalizing r b with
  | nil => exact (apply_ite (readSrc zero x) (r = 0) (some b) none).symm
  | snoc l st ih =>
    obtain ⟨d, hi, ra, rb⟩ := st
    rw [chainRun_append, List.reverse_append]
    show (if r = d then Isa.apply zero (mmUnpackEpi8 hi) _ _ b else _) =
      readSrc zero x (if r = d then _ else _)
    by_cases hr : r = d
    · rw [if_pos hr, if_pos hr]
      unfold Isa.apply
      rcases mmUnpackEpi8 hi b with ⟨side, k⟩
      cases side
      · exact ih ra k
      · exact ih rb k
      · rfl
    · rw [if_neg hr, if_neg hr]; exact ih r b

end Sse2
end Score
end LMV
