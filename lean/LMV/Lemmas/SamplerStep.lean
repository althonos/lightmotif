/-
  LMV.Lemmas.SamplerStep — one `next` of the sampler under the invariant: when it panics, what it
  yields, what the state becomes.
-/
import LMV.Lemmas.SamplerInv

namespace LMV
namespace Sampler

/-! ### `total`, `prepare_pssm` -/

theorem total_eq_zero (a : Array Nat) : total a = 0 ↔ ∀ c, c < a.size → a.getD c 0 = 0 := by
  rw [total, ← Array.foldl_toList, ← List.sum_eq_foldl_nat, List.sum_eq_zero_iff_forall_eq_nat]
  constructor
  · intro h c hc
    rw [Array.getD_eq_getD_getElem?, Array.getElem?_eq_getElem hc]
    exact h _ (Array.getElem_mem_toList hc)
  · intro h y hy
    obtain ⟨i, hi, rfl⟩ := Array.mem_iff_getElem.mp (Array.mem_toList_iff.mp hy)
    simpa [hi] using h i hi

theorem preparePssm_ok {K : Nat} {s : State K} (h : total s.bg ≠ 0) :
    preparePssm s = .ok (s.motif, s.active.count) := by
  rw [preparePssm, if_neg h]

/-! ### the invariant only looks at starts / active / motif / bg / seed, and at `lastInclusion ≤ step` -/

theorem st_congr {K : Nat} {s s' : State K} (h : s'.starts = s.starts) : st s' = st s := by
  funext i; unfold st; rw [h]

theorem act_congr {K : Nat} {s s' : State K} (h : s'.active = s.active) : act s' = act s := by
  funext i; unfold act; rw [h]

/-- The field equalities default to `rfl`: callers change `lastInclusion`, `step` or `converged`
    and say only why `last` still holds. -/
theorem Inv.congr {K : Nat} {D : Data} {w : Nat} {s : State K} (h : Inv D w s) (s' : State K)
    (last : s'.lastInclusion ≤ s'.step)
    (starts : s'.starts = s.starts := by rfl) (active : s'.active = s.active := by rfl)
    (motif : s'.motif = s.motif := by rfl) (bg : s'.bg = s.bg := by rfl)
    (seed : s'.seed = s.seed := by rfl) : Inv D w s' := by
  have hs := st_congr starts
  have ha := act_congr active
  exact
    { nstarts := starts ▸ h.nstarts
      nactive := active ▸ h.nactive
      rows := motif ▸ h.rows
      bgsize := bg ▸ h.bgsize
      inside := hs ▸ h.inside
      motif := by rw [hs, ha, motif]; exact h.motif
      bg := by rw [hs, ha, bg]; exact h.bg
      count := by rw [ha, active]; exact h.count
      last := last
      seedlt := seed ▸ h.seedlt }

theorem After.congr {K : Nat} {D : Data} {w : Nat} {s s' : State K} {σ : Nat → Nat} {a : Nat → Bool}
    (h : After D w s s' σ a) (t : State K) (last : t.lastInclusion ≤ t.step)
    (starts : t.starts = s'.starts := by rfl) (active : t.active = s'.active := by rfl)
    (motif : t.motif = s'.motif := by rfl) (bg : t.bg = s'.bg := by rfl)
    (seed : t.seed = s'.seed := by rfl) (step : t.step = s'.step := by rfl) : After D w s t σ a :=
  { inv := h.inv.congr t last starts active motif bg seed
    st_eq := (st_congr starts).trans h.st_eq
    act_eq := (act_congr active).trans h.act_eq
    step_eq := step.trans h.step_eq
    seed_eq := seed.trans h.seed_eq }

theorem updateHoldout_spec {K : Nat} {D : Data} {w : Nat} {s : State K} {z : Nat} {start : Option Nat}
    (hinv : Inv D w s) (hz : z < D.n) (ha : act s z = false) (hst : StartOk w (D.seq z).size start) :
    After D w s (updateHoldout s z start) (fun i => if i = z then start.getD (st s z) else st s i)
      (act s) := by
  fun_cases updateHoldout s z start with
  | case1 v =>  -- a start `v` was drawn
    let s' : State K := { s with starts := s.starts.setIfInBounds z v }
    have hst' : st s' = (fun i => if i = z then v else st s i) := by
      unfold st; exact getD_set_fun s.starts z v 0 (hinv.nstarts ▸ hz)
    have hact : act s' = act s := act_congr rfl
    -- the start that moved belongs to an inactive sequence
    have hagree : ∀ i, act s i = true → st s' i = st s i := fun i hi => by
      rw [hst']; exact if_neg fun e => by rw [e, ha] at hi; cases hi
    refine ⟨?_, hst', hact, rfl, rfl⟩
    exact
      { nstarts := by simp [hinv.nstarts]
        nactive := hinv.nactive
        rows := hinv.rows
        bgsize := hinv.bgsize
        inside := fun i hi => by
          rw [hst']; dsimp only
          split
          · next e => exact e ▸ hst
          · exact hinv.inside i hi
        motif := fun j hj c hc => by
          rw [hact, alignMotif_starts D _ _ (act s) j c hagree]; exact hinv.motif j hj c hc
        bg := fun c hc => by rw [hact, alignBg_starts D w _ _ (act s) c hagree]; exact hinv.bg c hc
        count := by rw [hact]; exact hinv.count
        last := hinv.last
        seedlt := hinv.seedlt }
  | case2 =>  -- `WeightedIndex::new` failed: the state is left as it is
    refine ⟨hinv, funext fun i => ?_, rfl, rfl, rfl⟩
    by_cases e : i = z
    · rw [if_pos e, e]; rfl
    · rw [if_neg e]

theorem selectHoldout_ok {K : Nat} {D : Data} {P : Params} {s : State K} {c : Choice}
    (hinv : Inv D P.w s) (hadm : Adm D P s c) : selectHoldout P s c.z = .ok c.z ∧ c.z < D.n := by
  have h1 := hadm.1
  fun_cases selectHoldout P s c.z with
  -- `"choose-empty"`: but `c.z` is drawn from the seed list
  | case1 hc he => rw [if_pos hc, List.isEmpty_iff.mp he] at h1; cases h1
  | case2 hc _ => rw [if_pos hc] at h1; exact ⟨rfl, hinv.seedlt _ h1⟩
  -- `"uniform-empty"`: but `c.z < D.n`, the number of starts
  | case3 hc h0 => rw [if_neg hc, ← hinv.nstarts, h0] at h1; cases h1
  | case4 hc _ => rw [if_neg hc] at h1; exact ⟨rfl, h1⟩

theorem selectHoldout_eq {K : Nat} {P : Params} {s : State K} {z z' : Nat}
    (h : selectHoldout P s z = .ok z') : z' = z := by
  -- either branch is `if _ then .error _ else .ok z`
  revert h
  fun_cases selectHoldout P s z
  all_goals intro h; cases h
  all_goals rfl

theorem zoopsTail_spec {K : Nat} {D : Data} {P : Params} {s : State K} {z : Nat}
    (hwf : D.WF K) (hinv : Inv D P.w s) (hz : z < D.n) (htot : total s.bg ≠ 0) (wa d : Bool) :
    ∃ s', zoopsTail D P s z wa d = .ok s' ∧ After D P.w s s' (st s)
      (if P.zoops = true ∧ wa = false ∧ d = true then without (act s) z else act s) := by
  unfold zoopsTail
  by_cases hc : P.zoops = true ∧ ¬ wa = true
  · have hwa : wa = false := eq_false_of_ne_true hc.2
    rw [if_pos hc, preparePssm_ok htot]; dsimp only
    -- the exclusion or the new `last_inclusion`, then the `converged` flag: both leave the alignment alone
    cases d with
    | true =>
      obtain ⟨s4, h4, e4⟩ := excludeSequence_spec hwf hinv hz
      have hl := e4.inv.last
      rw [if_pos rfl, h4]; dsimp only
      rw [if_neg (Nat.not_lt.mpr hl),
        if_pos (c := P.zoops = true ∧ wa = false ∧ true = true) ⟨hc.1, hwa, rfl⟩]
      by_cases hp : s4.step - s4.lastInclusion > P.patience
      · exact ⟨_, if_pos hp, e4.congr _ hl⟩
      · exact ⟨_, if_neg hp, e4⟩
    | false =>
      rw [if_neg Bool.false_ne_true]; dsimp only
      -- `step - last_inclusion` is `0` now: `converged` is not set
      have hp : ¬ s.step - s.step > P.patience := by rw [Nat.sub_self]; exact Nat.not_lt_zero _
      rw [if_neg (Nat.lt_irrefl _), if_neg (c := P.zoops = true ∧ wa = false ∧ false = true)
        (fun h => nomatch h.2.2), if_neg hp]
      exact ⟨_, rfl, hinv.congr _ (Nat.le_refl _), rfl, rfl, rfl, rfl⟩
  · rw [if_neg hc, if_neg (fun h => hc ⟨h.1, by rw [h.2.1]; simp⟩)]
    exact ⟨s, rfl, hinv, rfl, rfl, rfl, rfl⟩

/-! ### one `next` -/

/-- active flags after a step: `z` ends up active unless it was a recruit (Zoops, inactive before)
    that the step discarded -/
def actAfter (P : Params) (a : Nat → Bool) (c : Choice) : Nat → Bool :=
  fun i => if i = c.z then
      (if P.zoops = true ∧ a c.z = false ∧ c.discard = true then false else true)
    else a i

theorem actAfter_of_active {P : Params} {a : Nat → Bool} (c : Choice) {k : Nat} (h : a k = true) :
    actAfter P a c k = true := by
  unfold actAfter; split
  · next e => rw [if_neg (fun hh => by rw [← e, h] at hh; cases hh.2.1)]
  · exact h

/-- starts after a step: only the start of `z` moves, and only when a new one was drawn -/
def stAfter (s0 : Nat → Nat) (c : Choice) : Nat → Nat :=
  fun i => if i = c.z then c.start.getD (s0 c.z) else s0 i

/-- nothing remains outside the windows once `z` is held out -/
def NothingLeft {K : Nat} (D : Data) (w : Nat) (s : State K) (z : Nat) : Prop :=
  ∀ c, c < K → alignBg D w (st s) (without (act s) z) c = 0

/-- what a step `next D P s c = .ok (some (s', it))` establishes (`next_of_ok`) -/
structure Stepped {K : Nat} (D : Data) (P : Params) (s : State K) (c : Choice) (s' : State K)
    (it : Iteration K) : Prop where
  inv : Inv D P.w s'
  act_eq : act s' = actAfter P (act s) c
  st_eq : st s' = stAfter (st s) c
  step_eq : s'.step = s.step + 1
  z_eq : it.z = c.z
  itStep_eq : it.step = s.step
  counts_eq : ∀ j, j < P.w → ∀ cc, cc < K →
    it.counts.get j cc = alignMotif D (st s) (without (act s) c.z) j cc
  n_eq : it.n = alignCount D (without (act s) c.z)

/-- One `next` from a state satisfying the invariant, with an admissible choice.  Either nothing
    remains outside the windows once `z` is held out — then, and only then, the step panics (in
    `prepare_pssm`) — or the step succeeds, the new state satisfies the invariant, and the
    iteration reports the alignment without `z`.  The success branch is `Stepped` spelt out; use it
    through `next_of_ok`. -/
theorem next_spec {K : Nat} {D : Data} {P : Params} {s : State K} {c : Choice}
    (hwf : D.WF K) (hinv : Inv D P.w s) (hadm : Adm D P s c) (hnc : s.converged = false) :
    c.z < D.n ∧
    ((NothingLeft D P.w s c.z ∧ next D P s c = .error "background-empty") ∨
     (¬ NothingLeft D P.w s c.z ∧ ∃ s' it, next D P s c = .ok (some (s', it)) ∧ Inv D P.w s' ∧
        act s' = actAfter P (act s) c ∧ st s' = stAfter (st s) c ∧
        s'.step = s.step + 1 ∧ s'.seed = s.seed ∧
        it.z = c.z ∧ it.step = s.step ∧
        (∀ j, j < P.w → ∀ cc, cc < K →
          it.counts.get j cc = alignMotif D (st s) (without (act s) c.z) j cc) ∧
        it.n = alignCount D (without (act s) c.z))) := by
  obtain ⟨hsel, hz⟩ := selectHoldout_ok hinv hadm
  refine ⟨hz, ?_⟩
  obtain ⟨s1, h1, e1⟩ := excludeSequence_spec hwf hinv hz
  simp only [next, hnc, Bool.false_eq_true, if_false, hsel, activeTest_ok s c.z (hinv.nactive ▸ hz), h1]
  have hnl : NothingLeft D P.w s c.z ↔ total s1.bg = 0 := by
    rw [total_eq_zero, e1.inv.bgsize]
    exact forall₂_congr fun cc hcc => by rw [e1.inv.bg cc hcc, e1.st_eq, e1.act_eq]
  by_cases htot : total s1.bg = 0
  · exact .inl ⟨hnl.mpr htot, by rw [preparePssm, if_pos htot]⟩
  · refine .inr ⟨fun h => htot (hnl.mp h), ?_⟩
    have e2 := updateHoldout_spec (start := c.start) e1.inv hz
      (by rw [e1.act_eq, without, if_pos rfl]) hadm.2
    obtain ⟨s3, h3, e3, hbg⟩ := includeSequence_spec hwf e2.inv hz
    -- the second `prepare_pssm` cannot fail: the background only grew
    have htot3 : total s3.bg ≠ 0 := fun h0 => htot <| (total_eq_zero _).mpr fun cc hcc => by
      have hcc : cc < K := e1.inv.bgsize ▸ hcc
      have h3c : s3.bg.getD cc 0 = 0 := (total_eq_zero _).mp h0 cc (e3.inv.bgsize.symm ▸ hcc)
      have h := hbg cc hcc
      rw [show (updateHoldout s1 c.z c.start).bg = s1.bg by cases c.start <;> rfl, h3c] at h
      exact Nat.le_zero.mp h
    obtain ⟨s4, h4, e4⟩ := zoopsTail_spec hwf e3.inv hz htot3 (act s c.z) c.discard
    simp only [preparePssm_ok htot, h3, h4]
    have hstep : s4.step = s.step := by rw [e4.step_eq, e3.step_eq, e2.step_eq, e1.step_eq]
    refine ⟨_, _, rfl, e4.inv.congr _ (Nat.le_succ_of_le e4.inv.last), ?_, ?_,
      congrArg (· + 1) hstep, by rw [← e1.seed_eq, ← e2.seed_eq, ← e3.seed_eq, ← e4.seed_eq], rfl, hstep, ?_, ?_⟩
    · show act s4 = _
      rw [e4.act_eq, e3.act_eq, e2.act_eq, e1.act_eq]
      funext i
      unfold actAfter
      -- `c.z` was held out and included again; a recruit that is discarded is then held out once more
      by_cases hc : P.zoops = true ∧ act s c.z = false ∧ c.discard = true
      · rw [if_pos hc, if_pos hc, without_withSeq _ _ (if_pos rfl)]; rfl
      · rw [if_neg hc, if_neg hc]; exact ite_congr rfl (fun _ => rfl) fun e => if_neg e
    · show st s4 = _
      rw [e4.st_eq, e3.st_eq, e2.st_eq, e1.st_eq]
      rfl
    · intro j hj cc hcc
      rw [show _ = s1.motif.get j cc from rfl, e1.inv.motif j hj cc hcc, e1.st_eq, e1.act_eq]
    · rw [show _ = s1.active.count from rfl, e1.inv.count, e1.act_eq]

theorem not_converged_of_next {K : Nat} {D : Data} {P : Params} {s : State K} {c : Choice}
    (h : next D P s c ≠ .ok none) : s.converged = false := by
  cases hc : s.converged with
  | false => rfl
  | true => exact absurd (by rw [next, if_pos hc]) h

theorem next_of_ok {K : Nat} {D : Data} {P : Params} {s s' : State K} {c : Choice} {it : Iteration K}
    (hwf : D.WF K) (hinv : Inv D P.w s) (hadm : Adm D P s c)
    (h : next D P s c = .ok (some (s', it))) : Stepped D P s c s' it := by
  have hnc := not_converged_of_next (by rw [h]; exact fun e => nomatch e)
  rcases (next_spec hwf hinv hadm hnc).2 with ⟨_, he⟩ |
    ⟨_, s2, it2, hs2, inv, act_eq, st_eq, step_eq, -, z_eq, itStep_eq, counts_eq, n_eq⟩
  · rw [he] at h; cases h
  · rw [hs2] at h; cases h
    exact { inv, act_eq, st_eq, step_eq, z_eq, itStep_eq, counts_eq, n_eq }

/-! ### a failed `WeightedIndex::new` -/

/-- every `.ok` branch of `exclude_sequence` returns `s` or `{ s with motif, bg, active }` -/
theorem excludeSequence_starts {K : Nat} {D : Data} {w : Nat} {s s1 : State K} {z : Nat}
    (h : excludeSequence D w s z = .ok s1) : s1.starts = s.starts := by
  revert h
  fun_cases excludeSequence D w s z
  all_goals intro h; cases h
  all_goals rfl

/-- a failed `WeightedIndex::new` (`none`) is indistinguishable from drawing the old start -/
theorem next_none_eq {K : Nat} (D : Data) (P : Params) (s : State K) (z : Nat) (d : Bool) :
    next D P s ⟨z, none, d⟩ = next D P s ⟨z, some (st s z), d⟩ := by
  unfold next
  refine ite_congr rfl (fun _ => rfl) fun _ => ?_
  cases hs : selectHoldout P s z with
  | error e => rfl
  | ok z' =>
    dsimp only
    cases ht : s.active.test z' with
    | error e => rfl
    | ok wa =>
      cases he : excludeSequence D P.w s z' with
      | error e => rfl
      | ok s1 =>
        dsimp only
        obtain rfl := selectHoldout_eq hs
        have : updateHoldout s1 z' (some (st s z')) = updateHoldout s1 z' none := by
          show { s1 with starts := s1.starts.setIfInBounds z' (st s z') } = s1
          have h1 := excludeSequence_starts he
          have : st s z' = s1.starts.getD z' 0 := by unfold st; rw [h1]
          rw [this, setIfInBounds_getD_self]
        rw [this]

end Sampler
end LMV
