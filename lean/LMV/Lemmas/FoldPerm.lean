/-
  LMV.Lemmas.FoldPerm — a left fold of an associative-commutative operation over `0..n` does not
  change when the index is sent through an involution of `0..n` (the re-ordering of a sum that
  reverse complementation performs: column permutation by `complement`, row reversal).
-/
import Mathlib.Data.List.Nodup

namespace LMV
namespace FoldPerm

variable {α : Type}

theorem map_involution_perm (n : Nat) (σ : Nat → Nat)
    (hlt : ∀ j, j < n → σ j < n) (hinv : ∀ j, j < n → σ (σ j) = j) :
    ((List.range n).map σ).Perm (List.range n) := by
  have hinj : ∀ a, a ∈ List.range n → ∀ b, b ∈ List.range n → σ a = σ b → a = b := by
    intro a ha b hb h
    have := congrArg σ h
    rwa [hinv a (List.mem_range.mp ha), hinv b (List.mem_range.mp hb)] at this
  have hnd : ((List.range n).map σ).Nodup := List.Nodup.map_on hinj List.nodup_range
  rw [List.perm_ext_iff_of_nodup hnd List.nodup_range]
  intro a
  simp only [List.mem_map, List.mem_range]
  constructor
  · rintro ⟨b, hb, rfl⟩; exact hlt b hb
  · intro ha; exact ⟨σ a, hlt a ha, hinv a ha⟩

/-- `g'` is `g ∘ σ` on `0..n`; no neutral element of `op` is needed -/
theorem foldl_involution (op : α → α → α)
    (assoc : ∀ a b c, op (op a b) c = op a (op b c)) (comm : ∀ a b, op a b = op b a)
    (n : Nat) (σ : Nat → Nat) (hlt : ∀ j, j < n → σ j < n) (hinv : ∀ j, j < n → σ (σ j) = j)
    (g g' : Nat → α) (hg : ∀ j, j < n → g' j = g (σ j)) (init : α) :
    (List.range n).foldl (fun acc j => op acc (g' j)) init
      = (List.range n).foldl (fun acc j => op acc (g j)) init := by
  have h1 : (List.range n).foldl (fun acc j => op acc (g' j)) init
      = ((List.range n).map σ).foldl (fun acc j => op acc (g j)) init := by
    rw [List.foldl_map]
    exact List.foldl_ext _ _ _ fun acc j hj => by rw [hg j (List.mem_range.mp hj)]
  rw [h1]
  apply List.Perm.foldl_eq' (map_involution_perm n σ hlt hinv)
  intro x _ y _ z
  rw [assoc, assoc, comm (g x) (g y)]

end FoldPerm
end LMV
