/-
  LMV.Lemmas.Dist — the loops of LMV.Model.Dist at the exact (`Rat`) instance, for C11: the
  convolution loops as an operation on densities, the sf loop with its invariant, rounding, `min_by` /
  `max_by`; at the end, for every carrier, the admissibility test of the binary search.
-/
import LMV.Model.Dist
import Mathlib.Tactic.Ring
import Mathlib.Tactic.Linarith
import Mathlib.Algebra.Order.BigOperators.Group.List

namespace LMV.Dist
open Scalar

/-! ### the exact instance, unfolded -/

@[simp] theorem zero_rat : (Scalar.zero : Rat) = 0 := rfl
@[simp] theorem one_rat : (Scalar.one : Rat) = 1 := rfl
@[simp] theorem ltb_rat (a b : Rat) : Scalar.ltb a b = decide (a < b) := rfl
@[simp] theorem leb_rat (a b : Rat) : Scalar.leb a b = decide (a ≤ b) := rfl
@[simp] theorem eqb_rat (a b : Rat) : Scalar.eqb a b = decide (a = b) := rfl
@[simp] theorem min1_rat (p : Rat) : Scalar.min1 p = if p < 1 then p else 1 := rfl
@[simp] theorem ofInt_rat (i : Int) : (Scalar.ofInt i : Rat) = (i : Rat) := rfl
@[simp] theorem floor_rat (q : Rat) : (Scalar.floor q : Rat) = (q.floor : Rat) := rfl
@[simp] theorem roundI32_rat (q : Rat) : Scalar.roundI32 q = clampI32 (ratRound q) := rfl
@[simp] theorem toI32_rat (q : Rat) : Scalar.toI32 q = clampI32 (ratTrunc q) := rfl
@[simp] theorem cellNegInf_rat (o s : Rat) :
    Scalar.cellNegInf o s = if 0 < s then I32_MIN else if s < 0 then I32_MAX else 0 := rfl
@[simp] theorem ofIntF32_rat (i : Int) : (Scalar.ofIntF32 i : Rat) = (i : Rat) := rfl
@[simp] theorem toF32_rat (q : Rat) : (Scalar.toF32 q : Rat) = q := rfl
@[simp] theorem divF32_rat (a b : Rat) : Scalar.divF32 a b = a / b := rfl
@[simp] theorem addF32_rat (a b : Rat) : Scalar.addF32 a b = a + b := rfl

/-! ### vector interface laws -/

section Vec
variable {α : Type} [Add α] [Scalar α]
-- only `vadd` adds: the lemmas about the other operations do not use `[Add α]`
set_option linter.unusedSectionVars false

theorem vget_of_size_le (a : Array α) {j : Nat} (h : a.size ≤ j) : vget a j = zero := by
  unfold vget; rw [Array.getElem?_eq_none h]; rfl

@[simp] theorem size_vadd (a : Array α) (i : Nat) (x : α) : (vadd a i x).size = a.size := by
  simp [vadd]

theorem vget_vadd (a : Array α) (i : Nat) (x : α) (j : Nat) (h : i < a.size) :
    vget (vadd a i x) j = if j = i then vget a i + x else vget a j := by
  unfold vget vadd
  rw [Array.getElem?_modify]
  by_cases hij : j = i
  · rw [if_pos hij.symm, if_pos hij, hij, Array.getElem?_eq_getElem h]; rfl
  · rw [if_neg (Ne.symm hij), if_neg hij]

@[simp] theorem size_vset (a : Array α) (i : Nat) (x : α) : (vset a i x).size = a.size := by
  simp [vset]

theorem vget_vset (a : Array α) (i : Nat) (x : α) (j : Nat) (h : i < a.size) :
    vget (vset a i x) j = if j = i then x else vget a j := by
  unfold vget vset
  by_cases hij : j = i
  · rw [if_pos hij, hij, Array.getElem?_setIfInBounds_self_of_lt h]; rfl
  · rw [if_neg hij, Array.getElem?_setIfInBounds_ne (Ne.symm hij)]

@[simp] theorem size_vfill0 (a : Array α) (n : Nat) : (vfill0 a n).size = a.size := by
  simp [vfill0]

theorem vget_vfill0 (a : Array α) (n j : Nat) :
    vget (vfill0 a n) j = if j < n then zero else vget a j := by
  unfold vget vfill0
  rw [Array.getElem?_mapIdx]
  by_cases hj : j < a.size
  · rw [Array.getElem?_eq_getElem hj]; rfl
  · rw [Array.getElem?_eq_none (Nat.le_of_not_lt hj)]; exact (ite_self _).symm

theorem vget_replicate (n : Nat) (x : α) (j : Nat) :
    vget (Array.replicate n x) j = if j < n then x else zero := by
  unfold vget
  rw [Array.getElem?_replicate]
  split <;> rfl

end Vec

/-! ### the convolution loops over `Rat` -/

theorem convSym_zero (old : Array Rat) (s : Nat) (b : Rat) (new : Array Rat) :
    convSym old s b new 0 = new := by simp [convSym]

theorem convSym_succ (old : Array Rat) (s : Nat) (b : Rat) (new : Array Rat) (n : Nat) :
    convSym old s b new (n + 1) =
      if vget old n = 0 then convSym old s b new n
      else vadd (convSym old s b new n) (n + s) (vget old n * b) := by
  simp [convSym, List.range_succ]

theorem convSym_spec (old : Array Rat) (s : Nat) (b : Rat) (new : Array Rat) (n : Nat)
    (hb : n + s ≤ new.size) :
    (convSym old s b new n).size = new.size ∧
    ∀ j, vget (convSym old s b new n) j =
      vget new j + (if s ≤ j ∧ j - s < n then vget old (j - s) * b else 0) := by
  induction n with
  | zero => simp [convSym_zero]
  | succ n ih =>
    have hb' : n + s < new.size := Nat.lt_of_lt_of_le (Nat.add_lt_add_right n.lt_succ_self s) hb
    obtain ⟨hsz, hget⟩ := ih hb'.le
    -- one more index adds `old[n]·b` to cell `n + s`: nothing when `old[n] = 0`, skipped or not
    have hstep : (convSym old s b new (n + 1)).size = new.size ∧
        ∀ j, vget (convSym old s b new (n + 1)) j =
          vget (convSym old s b new n) j + (if j = n + s then vget old n * b else 0) := by
      rw [convSym_succ]
      by_cases h0 : vget old n = 0
      · rw [if_pos h0]; exact ⟨hsz, fun j => by rw [h0, zero_mul, ite_self, add_zero]⟩
      · rw [if_neg h0]
        refine ⟨by rw [size_vadd, hsz], fun j => ?_⟩
        rw [vget_vadd _ _ _ _ (hsz ▸ hb')]
        by_cases hj : j = n + s
        · rw [if_pos hj, if_pos hj, hj]
        · rw [if_neg hj, if_neg hj, add_zero]
    refine ⟨hstep.1, fun j => ?_⟩
    rw [hstep.2, hget, add_assoc]
    refine congrArg _ ?_
    by_cases hj : j = n + s
    · subst hj
      rw [Nat.add_sub_cancel, if_neg fun h => lt_irrefl n h.2, if_pos rfl,
        if_pos ⟨Nat.le_add_left s n, n.lt_succ_self⟩, zero_add]
    · rw [if_neg hj, add_zero]
      -- `j - s ≠ n`, so `j - s < n + 1` says no more than `j - s < n`
      have hne : s ≤ j → j - s ≠ n := fun hs e => hj (by rw [← e, Nat.sub_add_cancel hs])
      exact if_congr (and_congr_right fun hs =>
        ⟨Nat.lt_succ_of_lt, fun h => Nat.lt_of_le_of_ne (Nat.le_of_lt_succ h) (hne hs)⟩) rfl rfl

/-- contribution of symbol `a` to cell `j` of the next density, given the current density `q` -/
def symTerm (bg : List Rat) (row : List Int) (q : Nat → Rat) (a : Nat) (j : Nat) : Rat :=
  if row.getD a 0 = I32_MIN then 0
  else if (row.getD a 0).toNat ≤ j then q (j - (row.getD a 0).toNat) * bg.getD a 0 else 0

theorem convSyms_nil (bg : List Rat) (row : List Int) (old : Array Rat) (n : Nat) (new : Array Rat) :
    convSyms [] bg row old n new = new := rfl

theorem convSyms_cons (a : Nat) (syms : List Nat) (bg : List Rat) (row : List Int) (old : Array Rat)
    (n : Nat) (new : Array Rat) :
    convSyms (a :: syms) bg row old n new =
      convSyms syms bg row old n
        (if row.getD a 0 = I32_MIN then new
         else convSym old (row.getD a 0).toNat (bg.getD a 0) new n) := rfl

theorem convSyms_singleton (bg : List Rat) (row : List Int) (old : Array Rat) (n : Nat)
    (new : Array Rat) (a : Nat)
    (hcell : row.getD a 0 = I32_MIN ∨ n + (row.getD a 0).toNat ≤ new.size)
    (hsupp : ∀ k, n ≤ k → vget old k = 0) :
    (convSyms [a] bg row old n new).size = new.size ∧
    ∀ j, vget (convSyms [a] bg row old n new) j = vget new j + symTerm bg row (vget old) a j := by
  rw [convSyms_cons, convSyms_nil]
  unfold symTerm
  by_cases hmin : row.getD a 0 = I32_MIN
  · simp only [if_pos hmin, add_zero, implies_true, and_self]
  · obtain ⟨hsz, hget⟩ := convSym_spec old (row.getD a 0).toNat (bg.getD a 0) new n
      (hcell.resolve_left hmin)
    simp only [if_neg hmin]
    refine ⟨hsz, fun j => ?_⟩
    rw [hget]
    -- past `n` the old density is 0, so the bound `j - s < n` can go
    by_cases h1 : (row.getD a 0).toNat ≤ j
    · by_cases h2 : j - (row.getD a 0).toNat < n
      · rw [if_pos ⟨h1, h2⟩, if_pos h1]
      · rw [if_neg (fun h => h2 h.2), if_pos h1, hsupp _ (Nat.le_of_not_lt h2), zero_mul]
    · rw [if_neg (fun h => h1 h.1), if_neg h1]

theorem convSyms_spec (syms : List Nat) (bg : List Rat) (row : List Int) (old : Array Rat) (n : Nat)
    (new : Array Rat)
    (hcell : ∀ a ∈ syms, row.getD a 0 = I32_MIN ∨ n + (row.getD a 0).toNat ≤ new.size)
    (hsupp : ∀ k, n ≤ k → vget old k = 0) :
    (convSyms syms bg row old n new).size = new.size ∧
    ∀ j, vget (convSyms syms bg row old n new) j =
      vget new j + (syms.map (fun a => symTerm bg row (vget old) a j)).sum := by
  induction syms generalizing new with
  | nil => simp [convSyms_nil]
  | cons a syms ih =>
    obtain ⟨hsz1, hget1⟩ := convSyms_singleton bg row old n new a (hcell a List.mem_cons_self) hsupp
    obtain ⟨hsz, hget⟩ := ih (convSyms [a] bg row old n new)
      (fun b hb => by rw [hsz1]; exact hcell b (List.mem_cons_of_mem _ hb))
    rw [show convSyms (a :: syms) bg row old n new =
      convSyms syms bg row old n (convSyms [a] bg row old n new) from rfl]
    exact ⟨hsz.trans hsz1, fun j => by rw [hget, hget1, List.map_cons, List.sum_cons, add_assoc]⟩

/-- one row of the convolution on densities as functions -/
def stepQ (syms : List Nat) (bg : List Rat) (row : List Int) (q : Nat → Rat) : Nat → Rat :=
  fun j => (syms.map (fun a => symTerm bg row q a j)).sum

/-- the rows one after the other: what the row loop does to a density -/
def specQ (syms : List Nat) (bg : List Rat) : List (List Int) → (Nat → Rat) → (Nat → Rat)
  | [], q => q
  | row :: rest, q => specQ syms bg rest (stepQ syms bg row q)

/-- what the symbol loop needs of an integer row: a cell it visits is `i32::MIN` (the symbol is
    skipped) or its index offset `s as usize` is at most `R` (`pdf_new[k + s]` stays inside the table) -/
def RowOK (R : Nat) (syms : List Nat) (row : List Int) : Prop :=
  ∀ a ∈ syms, row.getD a 0 = I32_MIN ∨ (row.getD a 0).toNat ≤ R

/-- loop invariant of `for (i, row) in data.iter().enumerate()`: both buffers have the full size, the
    current one (`st.2`) holds the density `q`, which vanishes above `i * range`, and the spare one
    (`st.1`, overwritten by the next row) carries nothing above `i * range` either -/
structure ConvInv (R i size : Nat) (q : Nat → Rat) (st : Array Rat × Array Rat) : Prop where
  size1 : st.1.size = size
  size2 : st.2.size = size
  spare_zero : ∀ k, i * R < k → vget st.1 k = 0
  val : ∀ j, vget st.2 j = q j
  supp : ∀ k, i * R < k → q k = 0

theorem stepQ_support (R : Nat) (syms : List Nat) (bg : List Rat) (row : List Int) (q : Nat → Rat)
    (i : Nat) (hrow : RowOK R syms row) (hq : ∀ k, i * R < k → q k = 0) :
    ∀ j, (i + 1) * R < j → stepQ syms bg row q j = 0 := by
  intro j hj
  refine List.sum_eq_zero fun x hx => ?_
  obtain ⟨a, ha, rfl⟩ := List.mem_map.mp hx
  unfold symTerm
  by_cases hmin : row.getD a 0 = I32_MIN
  · rw [if_pos hmin]
  · have hR := (hrow a ha).resolve_left hmin
    rw [if_neg hmin]
    by_cases hle : (row.getD a 0).toNat ≤ j
    · rw [if_pos hle, hq, zero_mul]
      rw [Nat.add_mul, Nat.one_mul] at hj
      have hlt : i * R + (row.getD a 0).toNat < j := Nat.lt_of_le_of_lt (Nat.add_le_add_left hR _) hj
      exact Nat.lt_sub_of_add_lt hlt
    · rw [if_neg hle]

theorem convRow_spec (R : Nat) (syms : List Nat) (bg : List Rat) (i size : Nat) (row : List Int)
    {q : Nat → Rat} {st : Array Rat × Array Rat} (hinv : ConvInv R i size q st)
    (hrow : RowOK R syms row) (hsize : (i + 1) * R < size) :
    ConvInv R (i + 1) size (stepQ syms bg row q) (convRow R syms bg i row st) := by
  -- for the `omega` call below
  have hsize' : i * R + R < size := by rwa [Nat.add_mul, Nat.one_mul] at hsize
  obtain ⟨hsz, hget⟩ := convSyms_spec syms bg row st.2 (i * R + 1) (vfill0 st.1 (i * R + R + 1))
    (fun a ha => (hrow a ha).imp_right fun hR => by rw [size_vfill0, hinv.size1]; omega)
    (fun k hk => (hinv.val k).trans (hinv.supp k hk))
  -- `convRow` swaps the buffers: the old current one becomes the spare one
  exact {
    size1 := hinv.size2
    size2 := by show (convSyms _ _ _ _ _ _).size = size; rw [hsz, size_vfill0, hinv.size1]
    spare_zero := fun k hk => (hinv.val k).trans
      (hinv.supp k (Nat.lt_of_le_of_lt (Nat.mul_le_mul_right R i.le_succ) hk))
    supp := stepQ_support R syms bg row q i hrow hinv.supp
    val := fun j => by
      show vget (convSyms syms bg row st.2 (i * R + 1) (vfill0 st.1 (i * R + R + 1))) j = _
      -- the filled part of the other buffer is 0, the rest carries nothing
      have : (if j < i * R + R + 1 then (Scalar.zero : Rat) else vget st.1 j) = 0 :=
        ite_eq_left_iff.2 fun hj =>
          have hlt : i * R < j :=
            Nat.lt_of_lt_of_le (Nat.lt_succ_of_le (Nat.le_add_right _ R)) (Nat.le_of_not_lt hj)
          hinv.spare_zero j hlt
      rw [hget j, vget_vfill0, funext hinv.val, this, zero_add]; rfl }

theorem convRows_spec (R : Nat) (syms : List Nat) (bg : List Rat) (size : Nat)
    (data : List (List Int)) {i : Nat} {q : Nat → Rat} {st : Array Rat × Array Rat}
    (hinv : ConvInv R i size q st) (hrows : ∀ row ∈ data, RowOK R syms row)
    (hsize : (i + data.length) * R < size) :
    ConvInv R (i + data.length) size (specQ syms bg data q) (convRows R syms bg i data st) := by
  induction data generalizing i q st with
  | nil => exact hinv
  | cons row rest ih =>
    rw [List.length_cons, ← Nat.add_assoc, Nat.add_right_comm] at hsize ⊢
    have hsz1 : (i + 1) * R < size :=
      lt_of_le_of_lt (Nat.mul_le_mul_right _ (Nat.le_add_right _ _)) hsize
    exact ih (convRow_spec R syms bg i size row hinv (hrows row List.mem_cons_self) hsz1)
      (fun r hr => hrows r (List.mem_cons_of_mem _ hr)) hsize

/-- the initial density: all the mass on integer score 0 -/
def delta0 : Nat → Rat := fun j => if j = 0 then 1 else 0

theorem pdfOf_spec (R : Nat) (syms : List Nat) (bg : List Rat) (data : List (List Int))
    (hrows : ∀ row ∈ data, RowOK R syms row) :
    (pdfOf R syms bg data).size = data.length * R + 1 ∧
    ∀ j, vget (pdfOf R syms bg data) j = specQ syms bg data delta0 j := by
  have hrep : ∀ k, vget (Array.replicate (data.length * R + 1) (Scalar.zero : Rat)) k = 0 := by
    intro k; rw [vget_replicate]; split <;> rfl
  have hinv : ConvInv R 0 (data.length * R + 1) delta0
      (Array.replicate (data.length * R + 1) (Scalar.zero : Rat),
       vset (Array.replicate (data.length * R + 1) (Scalar.zero : Rat)) 0 Scalar.one) :=
    { size1 := Array.size_replicate, size2 := by rw [size_vset, Array.size_replicate]
      spare_zero := fun k _ => hrep k
      val := fun j => by
        rw [vget_vset _ _ _ _ (by rw [Array.size_replicate]; exact Nat.succ_pos _), hrep]; rfl
      supp := fun k hk => if_neg (Nat.ne_of_gt (Nat.lt_of_le_of_lt (Nat.zero_le _) hk)) }
  have h := convRows_spec R syms bg (data.length * R + 1) data hinv hrows
    (by rw [Nat.zero_add]; exact Nat.lt_succ_self _)
  exact ⟨h.size2, h.val⟩

/-! ### the reverse cumulative sum -/

theorem min1_of_le_one {x : Rat} (h : x ≤ 1) : (Scalar.min1 x : Rat) = x := by
  rw [min1_rat]
  by_cases hx : x < 1
  · rw [if_pos hx]
  · rw [if_neg hx]; exact le_antisymm (not_lt.1 hx) h

theorem sfLoop_succ (n : Nat) (st : SfState Rat) : sfLoop (n + 1) st = sfLoop n (sfStep n st) := rfl

/-- `max_score` bookkeeping: either still 0 with no tail mass at the indices seen so far (those
    above `n`), or one of those indices with no tail mass above it -/
def MaxInv (G : Nat → Rat) (size n : Nat) (mx : Int) : Prop :=
  (mx = 0 ∧ ∀ k : Nat, n < k → k < size → G k = 0) ∨
  ((n : Int) < mx ∧ ∀ k : Nat, mx < (k : Int) → k < size → G k = 0)

/-- Invariant of `for i in (0..=len-2).rev()` before the iteration `i = n - 1`, for a density `p` and
    its tail sums `G`: the table holds `G` from `n` on and `p` below; `min_score` is at or below every
    index `≥ n` carrying mass; both scores stay inside the table. -/
structure SfInv (p G : Nat → Rat) (size n : Nat) (st : SfState Rat) : Prop where
  sz : st.sf.size = size
  lt : n < size
  tail : ∀ j, n ≤ j → j < size → vget st.sf j = G j
  dens : ∀ j, j < n → vget st.sf j = p j
  min_nonneg : 0 ≤ st.minScore
  min_lt : st.minScore < size
  min_mass : ∀ j : Nat, n ≤ j → (j : Int) < st.minScore → p j = 0
  max_nonneg : 0 ≤ st.maxScore
  max_lt : st.maxScore < size
  max_tail : MaxInv G size n st.maxScore

section SfLoop
variable {p G : Nat → Rat} {size : Nat} (hp : ∀ j, 0 ≤ p j) (hG : ∀ j, G j = p j + G (j + 1))
  (hG1 : ∀ j, G j ≤ 1) (hG0 : ∀ j, 0 ≤ G j)
include hp hG hG1 hG0

theorem sfStep_inv {n : Nat} {st : SfState Rat} (h : SfInv p G size (n + 1) st) :
    SfInv p G size n (sfStep n st) := by
  have hnsz : n < st.sf.size := h.sz ▸ Nat.lt_of_succ_lt h.lt
  have hp0 : vget st.sf n = p n := h.dens n (Nat.lt_succ_self n)
  have hp1 : vget st.sf (n + 1) = G (n + 1) := h.tail (n + 1) (le_refl _) h.lt
  have hsf : (sfStep n st).sf = vset st.sf n (Scalar.min1 (G n)) := by
    rw [hG n, ← hp0, ← hp1]; rfl
  have hms : (sfStep n st).minScore = if 0 < p n then (n : Int) else st.minScore := by
    rw [← hp0]; exact if_congr decide_eq_true_iff rfl rfl
  have hmx : (sfStep n st).maxScore =
      if st.maxScore = 0 ∧ 0 < G (n + 1) then (n : Int) + 1 else st.maxScore := by
    rw [← hp1]; exact if_congr (and_congr_right' decide_eq_true_iff) rfl rfl
  have hnlt : (n : Int) < size := Int.ofNat_lt.2 (Nat.lt_of_succ_lt h.lt)
  exact {
    sz := by rw [hsf, size_vset]; exact h.sz
    lt := Nat.lt_of_succ_lt h.lt
    tail := fun j hj hjs => by
      rw [hsf, vget_vset _ _ _ _ hnsz]
      by_cases hjn : j = n
      · rw [if_pos hjn, hjn]; exact min1_of_le_one (hG1 n)
      · rw [if_neg hjn]; exact h.tail j (Nat.lt_of_le_of_ne hj (Ne.symm hjn)) hjs
    dens := fun j hj => by
      rw [hsf, vget_vset _ _ _ _ hnsz, if_neg (Nat.ne_of_lt hj)]
      exact h.dens j (Nat.lt_succ_of_lt hj)
    min_nonneg := by rw [hms]; split; exacts [Int.natCast_nonneg n, h.min_nonneg]
    min_lt := by rw [hms]; split; exacts [hnlt, h.min_lt]
    min_mass := fun j hj hjm => by
      rw [hms] at hjm
      by_cases hpos : 0 < p n
      · rw [if_pos hpos] at hjm; exact absurd (Int.ofNat_lt.1 hjm) (Nat.not_lt.2 hj)
      · rw [if_neg hpos] at hjm
        by_cases hjn : j = n
        · subst hjn; exact le_antisymm (not_lt.mp hpos) (hp j)
        · exact h.min_mass j (Nat.lt_of_le_of_ne hj (Ne.symm hjn)) hjm
    max_nonneg := by rw [hmx]; split; exacts [Int.le_add_one (Int.natCast_nonneg n), h.max_nonneg]
    max_lt := by rw [hmx]; split; exacts [Int.ofNat_lt.2 h.lt, h.max_lt]
    max_tail := by
      rw [hmx]
      by_cases hc : st.maxScore = 0 ∧ 0 < G (n + 1)
      · rw [if_pos hc]
        refine Or.inr ⟨Int.lt_succ n, fun k hk hks => ?_⟩
        rcases h.max_tail with ⟨_, hz⟩ | ⟨hlt', _⟩
        · exact hz k (Int.ofNat_lt.1 hk) hks
        · exact absurd (hc.1 ▸ hlt') (Int.not_lt.2 (Int.natCast_nonneg _))
      · rw [if_neg hc]
        rcases h.max_tail with ⟨hz0, hz⟩ | ⟨hlt', hz⟩
        · refine Or.inl ⟨hz0, fun k hk hks => ?_⟩
          by_cases hkn : k = n + 1
          · subst hkn
            exact le_antisymm (not_lt.mp fun hh => hc ⟨hz0, hh⟩) (hG0 _)
          · exact hz k (Nat.lt_of_le_of_ne hk (Ne.symm hkn)) hks
        · exact Or.inr ⟨(Int.ofNat_lt.2 n.lt_succ_self).trans hlt', hz⟩ }

theorem sfLoop_inv {n : Nat} {st : SfState Rat} (h : SfInv p G size n st) :
    SfInv p G size 0 (sfLoop n st) := by
  induction n generalizing st with
  | zero => exact h
  | succ n ih => rw [sfLoop_succ]; exact ih (sfStep_inv hp hG hG1 hG0 h)

theorem sfLoop_clip {N : Nat} {pdf : Array Rat} (hsz : pdf.size = N + 1)
    (hpdf : ∀ j, vget pdf j = p j) (hGtop : G (N + 1) = 0) :
    SfInv p G (N + 1) 0 (sfLoop N ⟨clipLast pdf, 0, 0⟩) := by
  have hlast : G N = p N := by rw [hG N, hGtop, add_zero]
  have hclip : ∀ j, vget (clipLast pdf) j = p j := by
    intro j
    unfold clipLast
    rw [vget_vset _ _ _ _ (by rw [hsz]; exact N.lt_succ_self), hsz, Nat.add_sub_cancel, hpdf, hpdf]
    split
    · next hj => rw [hj]; exact min1_of_le_one (hlast ▸ hG1 N)
    · rfl
  refine sfLoop_inv hp hG hG1 hG0 {
    sz := by show (clipLast pdf).size = _; unfold clipLast; rw [size_vset, hsz]
    lt := Nat.lt_succ_self _
    tail := fun j hj1 hj2 => by
      obtain rfl : j = N := Nat.le_antisymm (Nat.le_of_lt_succ hj2) hj1
      exact (hclip j).trans hlast.symm
    dens := fun j _ => hclip j
    min_nonneg := le_refl _
    min_lt := Int.natCast_pos.2 N.succ_pos
    min_mass := fun j _ hj => absurd hj (Int.not_lt.2 (Int.natCast_nonneg j))
    max_nonneg := le_refl _
    max_lt := Int.natCast_pos.2 N.succ_pos
    max_tail := Or.inl ⟨rfl, fun k hk hks => absurd hks (Nat.not_lt.2 hk)⟩ }

end SfLoop

/-! ### rounding -/

theorem lt_floor_add_one' (a : Rat) : a < (a.floor : Rat) + 1 := by
  have := Rat.lt_floor_add_one a
  push_cast at this
  exact this

theorem ratRound_le (q : Rat) : (ratRound q : Rat) ≤ q + 1 / 2 := by
  unfold ratRound
  split
  · exact Rat.floor_le _
  · rw [Int.cast_neg]
    calc -((-q + 1 / 2).floor : Rat) ≤ -(-q + 1 / 2 - 1) :=
          neg_le_neg (sub_lt_iff_lt_add.2 (lt_floor_add_one' _)).le
      _ = q + 1 / 2 := by ring

theorem le_ratRound (q : Rat) : q - 1 / 2 ≤ (ratRound q : Rat) := by
  unfold ratRound
  split
  · calc q - 1 / 2 = q + 1 / 2 - 1 := by ring
      _ ≤ _ := (sub_lt_iff_lt_add.2 (lt_floor_add_one' (q + 1 / 2))).le
  · calc q - 1 / 2 = -(-q + 1 / 2) := by ring
      _ ≤ _ := by rw [Int.cast_neg]; exact neg_le_neg (Rat.floor_le _)

theorem floor_add_half_nonneg {x : Rat} (hx : 0 ≤ x) : 0 ≤ (x + 1 / 2).floor :=
  Rat.le_floor_iff.mpr (by rw [Int.cast_zero]; exact add_nonneg hx (by decide +kernel))

theorem ratRound_mono {a b : Rat} (h : a ≤ b) : ratRound a ≤ ratRound b := by
  unfold ratRound
  by_cases ha : 0 ≤ a
  · rw [if_pos ha, if_pos (le_trans ha h)]
    exact Rat.floor_monotone (add_le_add_left h _)
  · by_cases hb : 0 ≤ b
    · -- a negative value rounds to at most 0, a non-negative one to at least 0
      rw [if_neg ha, if_pos hb]
      exact (neg_nonpos.2 (floor_add_half_nonneg (neg_nonneg.2 (not_le.1 ha).le))).trans
        (floor_add_half_nonneg hb)
    · rw [if_neg ha, if_neg hb]
      exact neg_le_neg (Rat.floor_monotone (add_le_add_left (neg_le_neg h) _))

theorem ratRound_intCast (n : Int) : ratRound (n : Rat) = n := by
  have h (k : Int) : ((k : Rat) + 1 / 2).floor = k := by
    rw [add_comm, Rat.floor_add_intCast, show ((1 : Rat) / 2).floor = 0 by decide +kernel, zero_add]
  unfold ratRound
  split
  · exact h n
  · rw [← Int.cast_neg, h, neg_neg]

theorem ratRound_mem {q : Rat} {a b : Int} (ha : (a : Rat) ≤ q) (hb : q ≤ b) :
    a ≤ ratRound q ∧ ratRound q ≤ b :=
  ⟨ratRound_intCast a ▸ ratRound_mono ha, ratRound_intCast b ▸ ratRound_mono hb⟩

theorem ratTrunc_intCast (n : Int) : ratTrunc (n : Rat) = n := by
  fun_cases ratTrunc (n : Rat) with
  | case1 h => exact Rat.floor_intCast n
  | case2 h => rw [← Int.cast_neg, Rat.floor_intCast, neg_neg]

theorem clampI32_eq (i : Int) : clampI32 i = max I32_MIN (min i I32_MAX) := by
  have hmm : I32_MIN ≤ I32_MAX := by decide
  fun_cases clampI32 i with
  | case1 h1 => rw [min_eq_left (h1.le.trans hmm), max_eq_left h1.le]
  | case2 h1 h2 => rw [min_eq_right h2.le, max_eq_right hmm]
  | case3 h1 h2 => rw [min_eq_left (not_lt.1 h2), max_eq_right (not_lt.1 h1)]

theorem clampI32_of_mem {i : Int} (h1 : I32_MIN ≤ i) (h2 : i ≤ I32_MAX) : clampI32 i = i := by
  rw [clampI32_eq, min_eq_left h2, max_eq_right h1]

theorem clampI32_mono {a b : Int} (h : a ≤ b) : clampI32 a ≤ clampI32 b := by
  rw [clampI32_eq, clampI32_eq]
  exact max_le_max le_rfl (min_le_min h le_rfl)

/-! ### `min_by` / `max_by` -/

theorem minBy_spec {l : List Rat} {s : Rat} (h : minBy l = some s) : s ∈ l ∧ ∀ y ∈ l, s ≤ y := by
  cases l with
  | nil => cases h
  | cons x t =>
    refine List.min?_eq_some_iff.1 ?_
    rw [← h, List.min?_cons']
    -- `if y < cur then y else cur` is `min cur y`
    simp only [minBy, ltb_rat, decide_eq_true_eq, ← not_le, ite_not, ← min_def]

theorem maxBy_spec {l : List Rat} {s : Rat} (h : maxBy l = some s) : s ∈ l ∧ ∀ y ∈ l, y ≤ s := by
  cases l with
  | nil => cases h
  | cons x t =>
    refine List.max?_eq_some_iff.1 ?_
    rw [← h, List.max?_cons']
    simp only [maxBy, ltb_rat, decide_eq_true_eq, ← not_le, ite_not, ← max_def]

/-! ### the binary search (every carrier) -/

/-- the driver's admissibility test decides the contract of `binary_search_by` -/
theorem searchAdmissibleB_iff {α : Type} [Add α] [Sub α] [Mul α] [Div α] [Scalar α]
    (d : Dist α) (p : α) (x : Nat) : d.searchAdmissibleB p x = true ↔ d.SearchAdmissible p x := by
  unfold Dist.searchAdmissibleB Dist.SearchAdmissible
  simp only [Bool.and_eq_true, Bool.or_eq_true, decide_eq_true_eq, List.all_eq_true, List.mem_range]
  constructor
  · rintro ⟨h1, h2⟩
    refine ⟨h1, ?_⟩
    rcases h2 with h2 | ⟨h3, h4⟩
    · exact Or.inl h2
    · right
      refine ⟨h3, fun j hxj hj => ?_⟩
      rcases h4 j hj with h5 | h5
      · exact absurd h5 (Nat.not_lt.2 hxj)
      · exact h5
  · rintro ⟨h1, h2⟩
    refine ⟨h1, ?_⟩
    rcases h2 with h2 | ⟨h3, h4⟩
    · exact Or.inl h2
    · right
      refine ⟨h3, fun j hj => ?_⟩
      by_cases hjx : j < x
      · exact Or.inl hjx
      · exact Or.inr (h4 j (Nat.le_of_not_lt hjx) hj)

instance {α : Type} [Add α] [Sub α] [Mul α] [Div α] [Scalar α] (d : Dist α) (p : α) (x : Nat) :
    Decidable (d.SearchAdmissible p x) := decidable_of_iff _ (searchAdmissibleB_iff d p x)

end LMV.Dist
