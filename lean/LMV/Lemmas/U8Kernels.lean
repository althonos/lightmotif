/-
  LMV.Lemmas.U8Kernels — the u8 scoring kernels cell by cell: when they do not panic and what each
  cell of the result holds (the 8-bit score of the window read down the column).
-/
import LMV.Lemmas.Discretise

namespace LMV
namespace C08

open Disc

variable {K C : Nat}

/-- the window the kernels read for cell `(row, col)`: down the column, `M` rows -/
def colWindow (st : Striped C) (row col : Nat) : Nat → Nat := fun j => st.data.get (row + j) col

/-- `h`: the `M` rows from `row` on are present, so the generic kernel has no row-index panic -/
theorem genericCell_eq (mode : AddMode) (dm : Mat UInt8 K) (st : Striped C) (row col : Nat)
    (h : row + dm.rows ≤ st.data.rows) :
    genericCell mode dm st row col = dscoreFn mode dm (colWindow st row col) := by
  unfold genericCell dscoreFn
  apply foldE_congr
  intro s j hj
  have : row + j < st.data.rows :=
    Nat.lt_of_lt_of_le (Nat.add_lt_add_left (List.mem_range.mp hj) row) h
  simp [this, colWindow]

theorem firstPanic_none (cell : Nat → Nat → Except String UInt8) (lo n : Nat)
    (h : ∀ r c, r < n → c < C → ∃ v, cell (lo + r) c = .ok v) :
    firstPanic (C := C) cell lo n = none := by
  unfold firstPanic
  rw [List.findSome?_eq_none_iff]
  intro r hr
  rw [List.findSome?_eq_none_iff]
  intro c hc
  obtain ⟨v, hv⟩ := h r c (List.mem_range.mp hr) (List.mem_range.mp hc)
  rw [hv]

theorem blockMat_rows (cell : Nat → Nat → Except String UInt8) (lo n : Nat) :
    (blockMat (C := C) cell lo n).rows = n := by simp [blockMat]

theorem blockMat_get (cell : Nat → Nat → Except String UInt8) (lo n r c : Nat) (v : UInt8)
    (hr : r < n) (hc : c < C) (hv : cell (lo + r) c = .ok v) :
    (blockMat (C := C) cell lo n).get r c = v := by
  simp [blockMat, hr, hc, hv]

theorem blockMat_congr (cell cell' : Nat → Nat → Except String UInt8) (lo n : Nat)
    (h : ∀ r c, r < n → c < C → cell (lo + r) c = cell' (lo + r) c) :
    blockMat (C := C) cell lo n = blockMat cell' lo n := by
  apply Mat.ext (by simp [blockMat])
  intro r c hr hc
  rw [blockMat_rows] at hr
  simp [blockMat, hr, hc, h r c hr hc]

/-- One normal form for every arm, with the saturating accumulation (the code after `fix: saturating
    accumulation of 8-bit scores`).  `hrows`: the last scored row `hi − 1` still has its `M` rows. -/
theorem scoreRowsDispatch_sat (arm : Arm) (dm : Mat UInt8 K) (st : Striped C) (lo hi : Nat)
    (hM : 1 ≤ dm.rows) (hwrap : dm.rows - 1 ≤ st.wrap) (hlen : dm.rows ≤ st.length) (hlt : lo < hi)
    (hrows : hi + dm.rows ≤ st.data.rows + 1) :
    scoreRowsDispatch arm .saturating dm st lo hi =
      .ok ⟨blockMat (fun row col => dscoreFn .saturating dm (colWindow st row col)) lo (hi - lo),
        st.length + 1 - dm.rows⟩ := by
  -- for a kernel whose cells on the block are these scores: no panic, and the block they fill
  have key : ∀ cell : Nat → Nat → Except String UInt8,
      (∀ r c, r < hi - lo → c < C →
        cell (lo + r) c = dscoreFn .saturating dm (colWindow st (lo + r) c)) →
      firstPanic (C := C) cell lo (hi - lo) = none ∧ blockMat (C := C) cell lo (hi - lo) =
        blockMat (fun row col => dscoreFn .saturating dm (colWindow st row col)) lo (hi - lo) :=
    fun cell h => ⟨firstPanic_none _ _ _ fun r c hr hc =>
        (dscoreFn_saturating dm (colWindow st (lo + r) c)).imp fun v hv => h r c hr hc ▸ hv.1,
      blockMat_congr _ _ _ _ h⟩
  have hne : ¬ (st.length < dm.rows ∨ hi ≤ lo) :=
    not_or.2 ⟨Nat.not_lt.2 hlen, Nat.not_le.2 hlt⟩
  have hgen := key (genericCell .saturating dm st) fun r c hr _ =>
    have hrow : lo + r + dm.rows ≤ st.data.rows := Nat.le_of_lt_succ
      (Nat.lt_of_lt_of_le (Nat.add_lt_add_right (Nat.add_lt_of_lt_sub' hr) _) hrows)
    genericCell_eq .saturating dm st (lo + r) c hrow
  cases arm with
  | avx2 =>
    obtain ⟨h1, h2⟩ := key (avx2Cell dm st) fun _ _ _ _ => rfl
    show scoreRowsAvx2 dm st lo hi = _
    unfold scoreRowsAvx2
    rw [if_neg (Nat.ne_of_gt hM), if_neg (Nat.not_lt.2 hwrap), if_neg hne, h1, h2]
  | generic | sse2 =>
    show scoreRowsGeneric .saturating dm st lo hi = _
    unfold scoreRowsGeneric
    rw [if_neg hne, hgen.1, hgen.2]

theorem scoreRowsGeneric_empty (mode : AddMode) (dm : Mat UInt8 K) (st : Striped C) (lo hi : Nat)
    (h : st.length < dm.rows ∨ hi ≤ lo) : scoreRowsGeneric mode dm st lo hi = .ok Scores.empty := by
  unfold scoreRowsGeneric; rw [if_pos h]

theorem scoreRowsAvx2_empty (dm : Mat UInt8 K) (st : Striped C) (lo hi : Nat)
    (hM : 1 ≤ dm.rows) (hwrap : dm.rows - 1 ≤ st.wrap)
    (h : st.length < dm.rows ∨ hi ≤ lo) : scoreRowsAvx2 dm st lo hi = .ok Scores.empty := by
  unfold scoreRowsAvx2; rw [if_neg (Nat.ne_of_gt hM), if_neg (Nat.not_lt.2 hwrap), if_pos h]

theorem scoreRowsDispatch_empty (arm : Arm) (mode : AddMode) (dm : Mat UInt8 K) (st : Striped C)
    (lo hi : Nat) (hM : 1 ≤ dm.rows) (hwrap : dm.rows - 1 ≤ st.wrap)
    (h : st.length < dm.rows ∨ hi ≤ lo) :
    scoreRowsDispatch arm mode dm st lo hi = .ok Scores.empty := by
  cases arm with
  | avx2 => exact scoreRowsAvx2_empty dm st lo hi hM hwrap h
  | generic | sse2 => exact scoreRowsGeneric_empty _ dm st lo hi h

end C08
end LMV
