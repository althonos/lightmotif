/-
  LMV.Lemmas.ScanAbstract — the scanner against the SPECIFICATION of its kernels.

  `KernelSpec` states what `next` / `max` need of the five operations of `Scanner.Kernels`
  (no SIMD detail): block scoring returns a matrix whose cells dominate `scale (score position)`,
  `max` bounds every cell, `threshold` lists exactly the cells `≥ t` once, `score_position` is the
  exact score, `scale` is monotone.  Everything here holds for every kernel record satisfying it.
-/
import LMV.Model.Scanner
import LMV.Lemmas.Sums
import Mathlib.Data.List.Nodup

namespace LMV
namespace C02

open Scanner Disc ScanScalar

variable {α : Type} [ScanScalar α] {C : Nat}

/-- specification of the kernels for a sequence of `R` striped rows with `nPos = L + 1 − M`
    positions (`0` when `L < M`) whose exact scores are `score i` -/
structure KernelSpec (k : Kernels α C) (R nPos : Nat) (score : Nat → α) : Prop where
  hC : 0 < C
  seqRows : k.seqRows = R
  fits : nPos ≤ C * R
  /-- scoring a non-empty block of sequence rows does not panic; the cell of every position is at
      least the byte image of its exact score (C08) -/
  scoreRows : 0 < nPos → ∀ lo hi, lo < hi → hi ≤ R →
    ∃ ds, k.scoreRows lo hi = .ok ds ∧ ds.maxIndex = nPos ∧ ds.data.rows = hi - lo ∧
      ∀ r c, r < hi - lo → c < C → c * R + lo + r < nPos →
        k.scale (score (c * R + lo + r)) ≤ ds.data.get r c
  scoreRowsShort : nPos = 0 → ∀ lo hi, ∃ ds, k.scoreRows lo hi = .ok ds ∧ ds.data.rows = 0
  /-- `max` is `None` only on empty scores and bounds every cell (C07) -/
  max_none : ∀ ds, k.max ds = none → ds.data.rows = 0
  max_ge : ∀ ds m, k.max ds = some m → ∀ r c, r < ds.data.rows → c < C → ds.data.get r c ≤ m
  /-- `threshold` returns exactly the cells `≥ t`, each once (C07) -/
  thr_nodup : ∀ ds t8, (k.threshold ds t8).Nodup
  thr_mem : ∀ ds t8 r c, (r, c) ∈ k.threshold ds t8 ↔ r < ds.data.rows ∧ c < C ∧ t8 ≤ ds.data.get r c
  /-- re-scoring a position of the sequence gives its exact score without a panic (C01/C04) -/
  scorePosition : ∀ i, i < nPos → k.scorePosition i = .ok (score i)
  /-- the score-to-byte mapping is monotone (C08) -/
  scale_mono : ∀ a b, ge b a = true → k.scale a ≤ k.scale b

/-- the `Hit` the scanner yields for position `i`: the position with its exact score -/
def mkHit (score : Nat → α) (i : Nat) : Hit α := ⟨i, score i⟩

/-- the positions `Scanner` has to yield from the striped rows `[lo, hi)`: position `i` lies in row
    `i % R` -/
def rowsQual (score : Nat → α) (t : α) (nPos R lo hi : Nat) : List Nat :=
  (List.range nPos).filter fun i => decide (lo ≤ i % R) && decide (i % R < hi) && ge (score i) t

/-- the positions `Scanner` has to yield in all: those of the `nPos` positions whose exact score
    meets the threshold -/
def allQual (score : Nat → α) (t : α) (nPos : Nat) : List Nat :=
  (List.range nPos).filter fun i => ge (score i) t

theorem mem_rowsQual {score : Nat → α} {t : α} {nPos R lo hi i : Nat} :
    i ∈ rowsQual score t nPos R lo hi ↔
      i < nPos ∧ lo ≤ i % R ∧ i % R < hi ∧ ge (score i) t = true := by
  simp only [rowsQual, List.mem_filter, List.mem_range, Bool.and_eq_true, decide_eq_true_eq, and_assoc]

theorem mem_allQual {score : Nat → α} {t : α} {nPos i : Nat} :
    i ∈ allQual score t nPos ↔ i < nPos ∧ ge (score i) t = true := by
  simp [allQual, List.mem_filter]

theorem rowsQual_nodup (score : Nat → α) (t : α) (nPos R lo hi : Nat) :
    (rowsQual score t nPos R lo hi).Nodup := List.Nodup.filter _ List.nodup_range

theorem allQual_nodup (score : Nat → α) (t : α) (nPos : Nat) : (allQual score t nPos).Nodup :=
  List.Nodup.filter _ List.nodup_range

theorem rowsQual_split (score : Nat → α) (t : α) (nPos R lo mid hi : Nat) (h1 : lo ≤ mid)
    (h2 : mid ≤ hi) :
    (rowsQual score t nPos R lo hi).Perm
      (rowsQual score t nPos R lo mid ++ rowsQual score t nPos R mid hi) := by
  rw [List.perm_ext_iff_of_nodup (rowsQual_nodup ..)]
  · intro i
    simp only [List.mem_append, mem_rowsQual]
    constructor
    · rintro ⟨a, b, c, d⟩
      by_cases hm : i % R < mid
      · exact Or.inl ⟨a, b, hm, d⟩
      · exact Or.inr ⟨a, Nat.le_of_not_lt hm, c, d⟩
    · rintro (⟨a, b, c, d⟩ | ⟨a, b, c, d⟩)
      · exact ⟨a, b, Nat.lt_of_lt_of_le c h2, d⟩
      · exact ⟨a, Nat.le_trans h1 b, c, d⟩
  · rw [List.nodup_append]
    refine ⟨rowsQual_nodup .., rowsQual_nodup .., ?_⟩
    intro a ha b hb hab
    subst hab
    rw [mem_rowsQual] at ha hb
    exact absurd ha.2.2.1 (Nat.not_lt.2 hb.2.1)

theorem R_pos_of_pos {R nPos i : Nat} (hfit : nPos ≤ C * R) (hi : i < nPos) : 0 < R :=
  Nat.pos_of_mul_pos_left (Nat.zero_lt_of_lt (Nat.lt_of_lt_of_le hi hfit))

theorem rowsQual_all (score : Nat → α) (t : α) (nPos R : Nat) (hfit : nPos ≤ C * R) :
    rowsQual score t nPos R 0 R = allQual score t nPos := by
  unfold rowsQual allQual
  apply List.filter_congr
  intro i hi
  have := Nat.mod_lt i (R_pos_of_pos hfit (List.mem_range.mp hi))
  simp [this]

theorem rowsQual_beyond (score : Nat → α) (t : α) (nPos R lo hi : Nat) (hfit : nPos ≤ C * R)
    (hlo : R ≤ lo) : rowsQual score t nPos R lo hi = [] := by
  unfold rowsQual
  rw [List.filter_eq_nil_iff]
  intro i hi
  have := Nat.mod_lt i (R_pos_of_pos hfit (List.mem_range.mp hi))
  have : ¬ lo ≤ i % R := Nat.not_le.2 (Nat.lt_of_lt_of_le this hlo)
  simp [this]

/-! ### coordinates ↔ positions -/

/-- position of the cell `(r, c)` of the block starting at `row` -/
def candPos (R row : Nat) (rc : Nat × Nat) : Nat := rc.2 * R + row + rc.1

theorem candPos_inj {R row : Nat} {a b : Nat × Nat} (ha : row + a.1 < R) (hb : row + b.1 < R)
    (h : candPos R row a = candPos R row b) : a = b := by
  unfold candPos at h
  rw [Nat.add_assoc, Nat.add_assoc] at h
  obtain ⟨e1, e2⟩ := Prod.mk.inj (offset_inj R (row + a.1, a.2) (row + b.1, b.2) ha hb h)
  exact Prod.ext (Nat.add_left_cancel e1) e2

theorem cell_of_pos {R nPos i row : Nat} (hfit : nPos ≤ C * R) (hlt : i < nPos) (hlo : row ≤ i % R) :
    i / R < C ∧ i / R * R + row + (i % R - row) = i := by
  obtain ⟨_, hc, e⟩ := pos_coord (Nat.lt_of_lt_of_le hlt hfit)
  exact ⟨hc, by rw [Nat.add_assoc, Nat.add_sub_cancel' hlo]; exact e⟩

/-! ### a scored block -/

/-- what scoring the rows `[lo, hi)` returned, in the form the block loops of `next` and `max` use;
    the same for a sequence shorter than the motif (`KernelSpec.scoreRowsShort`: no position, no
    row) -/
structure Block (k : Kernels α C) (R nPos : Nat) (score : Nat → α) (lo hi : Nat) (ds : Scores C) :
    Prop where
  rows_le : ds.data.rows ≤ hi - lo
  maxIndex : ds.data.rows ≠ 0 → ds.maxIndex = nPos
  cell : ∀ i, i < nPos → lo ≤ i % R → i % R < hi →
    i % R - lo < ds.data.rows ∧ k.scale (score i) ≤ ds.data.get (i % R - lo) (i / R)

section Block
variable {k : Kernels α C} {R nPos : Nat} {score : Nat → α} {lo hi : Nat} {ds : Scores C}

theorem KernelSpec.block (spec : KernelSpec k R nPos score) (hlo : lo < hi) (hhi : hi ≤ R) :
    ∃ ds, k.scoreRows lo hi = .ok ds ∧ Block k R nPos score lo hi ds := by
  rcases Nat.eq_zero_or_pos nPos with hz | hpos
  · obtain ⟨ds, hds, hr0⟩ := spec.scoreRowsShort hz lo hi
    exact ⟨ds, hds, hr0 ▸ Nat.zero_le _, fun h => absurd hr0 h,
      fun i hi => absurd (hz ▸ hi) (Nat.not_lt_zero _)⟩
  · obtain ⟨ds, hds, hmi, hrows, hdom⟩ := spec.scoreRows hpos lo hi hlo hhi
    refine ⟨ds, hds, Nat.le_of_eq hrows, fun _ => hmi, fun i hlt h1 h2 => ?_⟩
    obtain ⟨hcC, hpos⟩ := cell_of_pos spec.fits hlt h1
    have hr : i % R - lo < hi - lo := Nat.sub_lt_sub_right h1 h2
    have h := hdom (i % R - lo) (i / R) hr hcC (by rw [hpos]; exact hlt)
    rw [hpos] at h
    exact ⟨hrows ▸ hr, h⟩

omit [ScanScalar α] in
theorem Block.row_lt (hb : Block k R nPos score lo hi ds) {r : Nat} (hr : r < ds.data.rows) :
    lo + r < hi := Nat.add_lt_of_lt_sub' (Nat.lt_of_lt_of_le hr hb.rows_le)

theorem Block.cand_iff (hb : Block k R nPos score lo hi ds) (spec : KernelSpec k R nPos score)
    (hhi : hi ≤ R) (b : UInt8) {i : Nat} (hlt : i < nPos) :
    (∃ rc ∈ k.threshold ds b, candPos R lo rc = i) ↔
      lo ≤ i % R ∧ i % R < hi ∧ b ≤ ds.data.get (i % R - lo) (i / R) := by
  constructor
  · rintro ⟨⟨r, c⟩, hmem, rfl⟩
    obtain ⟨hr, -, hb'⟩ := (spec.thr_mem ds b r c).mp hmem
    have hx : lo + r < R := Nat.lt_of_lt_of_le (hb.row_lt hr) hhi
    simp only [candPos, Nat.add_assoc, pos_mod R c _ hx, pos_div R c _ hx, Nat.add_sub_cancel_left]
    exact ⟨Nat.le_add_right _ _, hb.row_lt hr, hb'⟩
  · rintro ⟨h1, h2, hb'⟩
    obtain ⟨hcC, hpos⟩ := cell_of_pos spec.fits hlt h1
    exact ⟨(i % R - lo, i / R),
      (spec.thr_mem ds b _ _).mpr ⟨(hb.cell i hlt h1 h2).1, hcC, hb'⟩, hpos⟩

theorem Block.maxIndex_of_cand (hb : Block k R nPos score lo hi ds)
    (spec : KernelSpec k R nPos score) {b : UInt8} (h : k.threshold ds b ≠ []) :
    ds.maxIndex = nPos := by
  obtain ⟨⟨r, c⟩, hmem⟩ := List.exists_mem_of_ne_nil _ h
  exact hb.maxIndex (Nat.ne_zero_of_lt ((spec.thr_mem ds b r c).mp hmem).1)

omit [ScanScalar α] in
/-- `Block.cell` back in cell coordinates: the form of `hdom` in `C03.maxCand_inv`, whose loop runs
    over candidate cells -/
theorem Block.dom (hb : Block k R nPos score lo hi ds) (hhi : hi ≤ R) (r c : Nat)
    (hr : r < ds.data.rows) (hlt : c * R + lo + r < nPos) :
    k.scale (score (c * R + lo + r)) ≤ ds.data.get r c := by
  have hx : lo + r < R := Nat.lt_of_lt_of_le (hb.row_lt hr) hhi
  have hm : (c * R + lo + r) % R = lo + r := by rw [Nat.add_assoc]; exact pos_mod R c _ hx
  have hd : (c * R + lo + r) / R = c := by rw [Nat.add_assoc]; exact pos_div R c _ hx
  have h := hb.cell _ hlt
  rw [hm, hd, Nat.add_sub_cancel_left] at h
  exact (h (Nat.le_add_right _ _) (hb.row_lt hr)).2

/-- a block with a candidate is not skipped: its maximum reaches the bound -/
theorem max_ge_of_cand (spec : KernelSpec k R nPos score) (ds : Scores C) (b : UInt8)
    (h : k.threshold ds b ≠ []) : ∃ m, k.max ds = some m ∧ m ≥ b := by
  obtain ⟨⟨r, c⟩, hmem⟩ := List.exists_mem_of_ne_nil _ h
  obtain ⟨hr, hc, hb⟩ := (spec.thr_mem ds b r c).mp hmem
  cases hmax : k.max ds with
  | none => exact absurd (spec.max_none ds hmax) (Nat.ne_of_gt (Nat.zero_lt_of_lt hr))
  | some m => exact ⟨m, rfl, Nat.le_trans hb (spec.max_ge ds m hmax r c hr hc)⟩

end Block

/-- the block loops of `next` and `max` use one unit of fuel per block of at least one row -/
theorem fuel_step {R row block fuel : Nat} (hb : 1 ≤ block) (h : R ≤ row + (fuel + 1)) :
    R ≤ row + block + fuel := by
  have hstep : fuel + 1 ≤ block + fuel := Nat.lt_add_of_pos_left hb
  rw [Nat.add_assoc]
  exact Nat.le_trans h (Nat.add_le_add_left hstep row)

/-! ### the candidate loop of `next` -/

/-- what the candidate loop of `next` keeps of a block's candidates: those that are positions of
    the sequence (`index < max_index`) and whose exact score meets the threshold -/
def keep (score : Nat → α) (t : α) (nPos R row : Nat) (cands : List (Nat × Nat)) : List Nat :=
  (cands.map (candPos R row)).filter fun i => decide (i < nPos) && ge (score i) t

/-- `mi` is the `max_index` of the block, which the loop reads only when there is a candidate -/
theorem rescore_eq {k : Kernels α C} {R nPos : Nat} {score : Nat → α}
    (spec : KernelSpec k R nPos score) (t : α) (row mi : Nat) (cands : List (Nat × Nat))
    (hmi : cands ≠ [] → mi = nPos) (hits : List (Hit α)) :
    rescore k t row mi cands hits =
      .ok (((keep score t nPos R row cands).map (mkHit score)).reverse ++ hits) := by
  induction cands generalizing hits with
  | nil => rfl
  | cons rc cs ih =>
    obtain ⟨r, c⟩ := rc
    cases hmi (List.cons_ne_nil _ _)
    have ih := ih fun _ => rfl
    rw [rescore, spec.seqRows]
    by_cases hlt : c * R + row + r < nPos
    · rw [if_pos hlt, spec.scorePosition _ hlt]
      simp only []  -- the `match` on `.ok`
      by_cases hge : ge (score (c * R + row + r)) t = true
      · rw [if_pos hge, ih]
        simp [keep, candPos, hlt, hge, mkHit]
      · rw [if_neg hge, ih]
        simp [keep, candPos, hge]
    · rw [if_neg hlt, ih]
      simp [keep, candPos, hlt]

theorem keep_perm {k : Kernels α C} {R nPos : Nat} {score : Nat → α}
    (spec : KernelSpec k R nPos score) (t : α) {row e : Nat} (heR : e ≤ R) {ds : Scores C}
    (hb : Block k R nPos score row e ds) :
    (keep score t nPos R row (k.threshold ds (k.scale t))).Perm (rowsQual score t nPos R row e) := by
  have hnodup : (keep score t nPos R row (k.threshold ds (k.scale t))).Nodup := by
    refine ((spec.thr_nodup ds (k.scale t)).map_on fun a ha b hb' hab => ?_).filter _
    have h1 := ((spec.thr_mem ds (k.scale t) a.1 a.2).mp ha).1
    have h2 := ((spec.thr_mem ds (k.scale t) b.1 b.2).mp hb').1
    exact candPos_inj (Nat.lt_of_lt_of_le (hb.row_lt h1) heR)
      (Nat.lt_of_lt_of_le (hb.row_lt h2) heR) hab
  rw [List.perm_ext_iff_of_nodup hnodup (rowsQual_nodup ..)]
  intro i
  rw [mem_rowsQual]
  unfold keep
  simp only [List.mem_filter, List.mem_map, Bool.and_eq_true, decide_eq_true_eq]
  constructor
  · rintro ⟨hc, hlt, hge⟩
    obtain ⟨hlo, hhi, -⟩ := (hb.cand_iff spec heR _ hlt).1 hc
    exact ⟨hlt, hlo, hhi, hge⟩
  · rintro ⟨hlt, hlo, hhi, hge⟩
    exact ⟨(hb.cand_iff spec heR _ hlt).2 ⟨hlo, hhi, Nat.le_trans
      (spec.scale_mono t (score i) hge) (hb.cell i hlt hlo hhi).2⟩, hlt, hge⟩

end C02
end LMV
