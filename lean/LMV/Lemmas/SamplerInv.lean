/-
  LMV.Lemmas.SamplerInv — the alignment a sampler state describes, the invariant `Inv`, the effect
  of `exclude_sequence` / `include_sequence` on it, and the invariant in terms of what the public
  accessors report (`Reported`).
-/
import LMV.Lemmas.Sampler

namespace LMV
namespace Sampler

/-! ### the alignment described by (starts, active), as the property words it -/

def act {K : Nat} (s : State K) (i : Nat) : Bool := s.active.data.getD i false
/-- start of the window in sequence `i` -/
def st {K : Nat} (s : State K) (i : Nat) : Nat := s.starts.getD i 0

/-- cell `(j, c)` of the count matrix of the alignment: the number of active sequences whose
    window has symbol `c` at offset `j` -/
def alignMotif (D : Data) (starts : Nat → Nat) (active : Nat → Bool) (j c : Nat) : Nat :=
  sumTo D.n (fun i => if active i = true ∧ (D.seq i).getD (starts i + j) 0 = c then 1 else 0)

/-- background count of `c`: occurrences of `c` in the active sequences outside their windows -/
def alignBg (D : Data) (w : Nat) (starts : Nat → Nat) (active : Nat → Bool) (c : Nat) : Nat :=
  sumTo D.n (fun i => if active i = true then outCount (D.seq i) (starts i) w c else 0)

/-- number of active sequences -/
def alignCount (D : Data) (active : Nat → Bool) : Nat :=
  sumTo D.n (fun i => if active i = true then 1 else 0)

def without (a : Nat → Bool) (z : Nat) : Nat → Bool := fun i => if i = z then false else a i
def withSeq (a : Nat → Bool) (z : Nat) : Nat → Bool := fun i => if i = z then true else a i

theorem without_withSeq (a : Nat → Bool) (z : Nat) (h : a z = false) : without (withSeq a z) z = a := by
  funext i; unfold without withSeq; split <;> simp_all

theorem without_of_inactive (a : Nat → Bool) (z : Nat) (h : a z = false) : without a z = a := by
  funext i; unfold without; split <;> simp_all

theorem withSeq_of_active (a : Nat → Bool) (z : Nat) (h : a z = true) : withSeq a z = a := by
  funext i; unfold withSeq; split <;> simp_all

/-! ### sums over the active sequences

  `alignBg` and `alignCount` are of this form by definition, `alignMotif` through `alignMotif_eq`
  (its definition tests `active i = true ∧ … = c` in one `if`). -/

theorem sumTo_without {n : Nat} (a : Nat → Bool) (g : Nat → Nat) {z : Nat} (hz : z < n)
    (ha : a z = true) :
    sumTo n (fun i => if a i = true then g i else 0) =
      sumTo n (fun i => if without a z i = true then g i else 0) + g z := by
  rw [sumTo_split _ hz, if_pos ha]
  refine congrArg (· + g z) (sumTo_congr fun i _ => ?_)
  unfold without
  by_cases e : i = z
  · rw [if_pos e, if_pos e, if_neg Bool.false_ne_true]
  · rw [if_neg e, if_neg e]

theorem sumTo_withSeq {n : Nat} (a : Nat → Bool) (g : Nat → Nat) {z : Nat} (hz : z < n)
    (ha : a z = false) :
    sumTo n (fun i => if withSeq a z i = true then g i else 0) =
      sumTo n (fun i => if a i = true then g i else 0) + g z := by
  rw [sumTo_without (withSeq a z) g hz (if_pos rfl), without_withSeq a z ha]

theorem sumTo_active_congr {n : Nat} (a : Nat → Bool) {g h : Nat → Nat}
    (e : ∀ i, i < n → a i = true → g i = h i) :
    sumTo n (fun i => if a i = true then g i else 0) = sumTo n (fun i => if a i = true then h i else 0) :=
  sumTo_congr fun i hi => by split; exact e i hi ‹_›; rfl

theorem alignMotif_eq (D : Data) (starts : Nat → Nat) (a : Nat → Bool) (j c : Nat) :
    alignMotif D starts a j c = sumTo D.n (fun i => if a i = true then
      (if (D.seq i).getD (starts i + j) 0 = c then 1 else 0) else 0) :=
  sumTo_congr fun i _ => by by_cases h : a i = true <;> simp [h]

theorem alignMotif_without (D : Data) (starts : Nat → Nat) (a : Nat → Bool) (j c : Nat) {z : Nat}
    (hz : z < D.n) (ha : a z = true) :
    alignMotif D starts a j c =
      alignMotif D starts (without a z) j c + (if (D.seq z).getD (starts z + j) 0 = c then 1 else 0) := by
  rw [alignMotif_eq, alignMotif_eq, sumTo_without a _ hz ha]

theorem alignBg_without (D : Data) (w : Nat) (starts : Nat → Nat) (a : Nat → Bool) (c : Nat) {z : Nat}
    (hz : z < D.n) (ha : a z = true) :
    alignBg D w starts a c = alignBg D w starts (without a z) c + outCount (D.seq z) (starts z) w c :=
  sumTo_without a _ hz ha

theorem alignCount_without (D : Data) (a : Nat → Bool) {z : Nat} (hz : z < D.n) (ha : a z = true) :
    alignCount D a = alignCount D (without a z) + 1 :=
  sumTo_without a _ hz ha

theorem alignMotif_withSeq (D : Data) (starts : Nat → Nat) (a : Nat → Bool) (j c : Nat) {z : Nat}
    (hz : z < D.n) (ha : a z = false) :
    alignMotif D starts (withSeq a z) j c =
      alignMotif D starts a j c + (if (D.seq z).getD (starts z + j) 0 = c then 1 else 0) := by
  rw [alignMotif_eq, alignMotif_eq, sumTo_withSeq a _ hz ha]

theorem alignBg_withSeq (D : Data) (w : Nat) (starts : Nat → Nat) (a : Nat → Bool) (c : Nat) {z : Nat}
    (hz : z < D.n) (ha : a z = false) :
    alignBg D w starts (withSeq a z) c = alignBg D w starts a c + outCount (D.seq z) (starts z) w c :=
  sumTo_withSeq a _ hz ha

theorem alignCount_withSeq (D : Data) (a : Nat → Bool) {z : Nat} (hz : z < D.n) (ha : a z = false) :
    alignCount D (withSeq a z) = alignCount D a + 1 :=
  sumTo_withSeq a _ hz ha

theorem alignMotif_starts (D : Data) (s1 s2 : Nat → Nat) (a : Nat → Bool) (j c : Nat)
    (h : ∀ i, a i = true → s1 i = s2 i) : alignMotif D s1 a j c = alignMotif D s2 a j c := by
  rw [alignMotif_eq, alignMotif_eq]
  exact sumTo_active_congr a fun i _ hi => by rw [h i hi]

theorem alignBg_starts (D : Data) (w : Nat) (s1 s2 : Nat → Nat) (a : Nat → Bool) (c : Nat)
    (h : ∀ i, a i = true → s1 i = s2 i) : alignBg D w s1 a c = alignBg D w s2 a c :=
  sumTo_active_congr a fun i _ hi => by rw [h i hi]

/-! ### well-formed data, the invariant -/

/-- what `SamplerData::new` establishes (`mkData_wf`): symbols are alphabet indices and the cached
    counts are the symbol counts of each sequence -/
structure Data.WF (K : Nat) (D : Data) : Prop where
  ncounts : D.counts.size = D.n
  sym : ∀ i, i < D.n → ∀ k, k < (D.seq i).size → (D.seq i).getD k 0 < K
  csize : ∀ i, i < D.n → (D.cnt i).size = K
  cnt : ∀ i, i < D.n → ∀ c, c < K → (D.cnt i).getD c 0 = symCount (D.seq i) c

/-- the state equals a recomputation from its alignment -/
structure Inv {K : Nat} (D : Data) (w : Nat) (s : State K) : Prop where
  nstarts : s.starts.size = D.n
  nactive : s.active.data.size = D.n
  rows : s.motif.rows = w
  bgsize : s.bg.size = K
  /-- every start (of active and inactive sequences alike) leaves the window inside its sequence -/
  inside : ∀ i, i < D.n → st s i + w ≤ (D.seq i).size
  /-- motif = Σ_{i active} window counts -/
  motif : ∀ j, j < w → ∀ c, c < K → s.motif.get j c = alignMotif D (st s) (act s) j c
  /-- background_counts = Σ_{i active} symbols outside the window -/
  bg : ∀ c, c < K → s.bg.getD c 0 = alignBg D w (st s) (act s) c
  /-- `active.count` is the number of set flags -/
  count : s.active.count = alignCount D (act s)
  /-- not part of the recomputation: `step - last_inclusion` does not underflow -/
  last : s.lastInclusion ≤ s.step
  /-- not part of the recomputation: a hold-out drawn from the seed list is a sequence index -/
  seedlt : ∀ i, i ∈ s.seed → i < D.n

/-! ### the flags; what the state-changing parts of `next` establish -/

theorem activeTest_ok {K : Nat} (s : State K) (z : Nat) (h : z < s.active.data.size) :
    s.active.test z = .ok (act s z) :=
  if_pos h

theorem act_setFlag {K : Nat} (s t : State K) (z : Nat) (b : Bool) (n : Nat)
    (hz : z < s.active.data.size) (h : t.active = ⟨s.active.data.setIfInBounds z b, n⟩) :
    act t = fun i => if i = z then b else act s i := by
  unfold act; rw [h]; exact getD_set_fun _ z b false hz

/-- what the state-changing parts of `next` establish of their result `s'`: the invariant, the
    alignment `(σ, a)` that `s'` describes, and the step counter and seed list they leave alone -/
structure After {K : Nat} (D : Data) (w : Nat) (s s' : State K) (σ : Nat → Nat) (a : Nat → Bool) :
    Prop where
  inv : Inv D w s'
  st_eq : st s' = σ
  act_eq : act s' = a
  step_eq : s'.step = s.step
  seed_eq : s'.seed = s.seed

/-- `exclude_sequence` and `include_sequence` rewrite `motif`, `background_counts` and flag `z`:
    the invariant holds again when the new counts are those of the alignment with the new flag.
    The new flags `a` come with the equation `ha` so that a caller can name them as it states its
    own result (`without (act s) z`, `withSeq (act s) z`) and give `rfl`. -/
theorem After.setFlag {K : Nat} {D : Data} {w : Nat} {s : State K} {z : Nat} (hinv : Inv D w s)
    (hza : z < s.active.data.size) (b : Bool) (a : Nat → Bool)
    (ha : a = fun i => if i = z then b else act s i) {m' : Mat Nat K} {b2 : Array Nat} {n : Nat}
    (rows : m'.rows = w) (bgsize : b2.size = K)
    (motif : ∀ j, j < w → ∀ c, c < K → m'.get j c = alignMotif D (st s) a j c)
    (bg : ∀ c, c < K → b2.getD c 0 = alignBg D w (st s) a c) (count : n = alignCount D a) :
    After D w s { s with motif := m', bg := b2, active := ⟨s.active.data.setIfInBounds z b, n⟩ }
      (st s) a := by
  subst ha
  let s' : State K := { s with motif := m', bg := b2, active := ⟨s.active.data.setIfInBounds z b, n⟩ }
  have hact : act s' = fun i => if i = z then b else act s i := act_setFlag s _ z b n hza rfl
  -- by `unfold`, not by `rfl` alone: the unifier would first try `s' =?= s`, which fails slowly
  have hst : st s' = st s := by unfold st; rfl
  refine ⟨?_, hst, hact, rfl, rfl⟩
  exact
    { nstarts := hinv.nstarts
      nactive := by simp [hinv.nactive]
      rows := rows
      bgsize := bgsize
      inside := by rw [hst]; exact hinv.inside
      motif := by rw [hst, hact]; exact motif
      bg := by rw [hst, hact]; exact bg
      count := by rw [hact]; exact count
      last := hinv.last
      seedlt := hinv.seedlt }

theorem excludeSequence_spec {K : Nat} {D : Data} {w : Nat} {s : State K} {z : Nat}
    (hwf : D.WF K) (hinv : Inv D w s) (hz : z < D.n) :
    ∃ s', excludeSequence D w s z = .ok s' ∧ After D w s s' (st s) (without (act s) z) := by
  have hza : z < s.active.data.size := hinv.nactive ▸ hz
  unfold excludeSequence
  rw [if_neg (fun h => h ⟨hz, hinv.nstarts ▸ hz, hwf.ncounts ▸ hz⟩), activeTest_ok s z hza]
  rw [show s.starts.getD z 0 = st s z from rfl]
  cases ha : act s z with
  | false => exact ⟨s, rfl, hinv, rfl, (without_of_inactive _ _ ha).symm, rfl, rfl⟩
  | true =>
    have hin := hinv.inside z hz
    have hsym := hwf.sym z hz
    -- what the alignment loses with `z`
    have hM := fun j c => alignMotif_without D (st s) (act s) j c hz ha
    have hB := fun c => alignBg_without D w (st s) (act s) c hz ha
    have hC := alignCount_without D (act s) hz ha
    obtain ⟨m', hm1, hm2, hm3⟩ := subWindow_ok (D.seq z) (st s z) w s.motif hinv.rows hin hsym
      (fun j hj => by
        rw [hinv.motif j hj _ (hsym _ (window_lt hin hj)), hM, if_pos rfl]; exact Nat.le_add_left 1 _)
    obtain ⟨b1, b2, hb1, hc1, hc2, hc3⟩ := bgAddWindow_subCounts_ok (D.cnt z) (D.seq z) (st s z) w s.bg
      (hwf.csize z hz) hinv.bgsize hin hsym (hwf.cnt z hz)
      (fun c hc => by rw [hinv.bg c hc, hB]; exact Nat.le_add_left _ _)
    have hun : s.active.unset z = .ok ⟨s.active.data.setIfInBounds z false, s.active.count - 1⟩ := by
      rw [Bits.unset, if_pos hza, if_pos (show s.active.data.getD z false = true from ha),
        if_pos (by rw [hinv.count, hC]; exact Nat.le_add_left 1 _)]
    simp only [hm1, hb1, hc1, hun]
    exact ⟨_, rfl, After.setFlag hinv hza false (without (act s) z) rfl hm2 hc2
      (fun j hj c hc => by
        have h := hm3 j c; rw [if_pos hj, hinv.motif j hj c hc, hM] at h; exact Nat.add_right_cancel h)
      (fun c hc => by have h := hc3 c hc; rw [hinv.bg c hc, hB] at h; exact Nat.add_right_cancel h)
      (by rw [hinv.count, hC, Nat.add_sub_cancel])⟩

/-- The last clause (the background counts only grow) is what `next` needs to know that its second
    `prepare_pssm`, after the re-inclusion, cannot fail when the first did not. -/
theorem includeSequence_spec {K : Nat} {D : Data} {w : Nat} {s : State K} {z : Nat}
    (hwf : D.WF K) (hinv : Inv D w s) (hz : z < D.n) :
    ∃ s', includeSequence D w s z = .ok s' ∧ After D w s s' (st s) (withSeq (act s) z) ∧
      ∀ c, c < K → s.bg.getD c 0 ≤ s'.bg.getD c 0 := by
  have hza : z < s.active.data.size := hinv.nactive ▸ hz
  unfold includeSequence
  rw [if_neg (fun h => h ⟨hz, hinv.nstarts ▸ hz, hwf.ncounts ▸ hz⟩), activeTest_ok s z hza]
  rw [show s.starts.getD z 0 = st s z from rfl]
  cases ha : act s z with
  | true =>
    exact ⟨s, rfl, ⟨hinv, rfl, (withSeq_of_active _ _ ha).symm, rfl, rfl⟩, fun _ _ => Nat.le_refl _⟩
  | false =>
    have hin := hinv.inside z hz
    have hsym := hwf.sym z hz
    -- what the alignment gains with `z`
    have hM := fun j c => alignMotif_withSeq D (st s) (act s) j c hz ha
    have hB := fun c => alignBg_withSeq D w (st s) (act s) c hz ha
    have hC := alignCount_withSeq D (act s) hz ha
    obtain ⟨m', hm1, hm2, hm3⟩ := addWindow_ok (D.seq z) (st s z) w s.motif hinv.rows hin hsym
    obtain ⟨b1, b2, hb1, hc1, hc2, hc3⟩ := addCounts_bgSubWindow_ok (D.cnt z) (D.seq z) (st s z) w s.bg
      (hwf.csize z hz) hinv.bgsize hin hsym (hwf.cnt z hz)
    have hset : s.active.set z = .ok ⟨s.active.data.setIfInBounds z true, s.active.count + 1⟩ := by
      rw [Bits.set, if_pos hza, if_neg (by rw [show s.active.data.getD z false = false from ha]; simp)]
    simp only [hm1, hb1, hc1, hset]
    exact ⟨_, rfl, After.setFlag hinv hza true (withSeq (act s) z) rfl hm2 hc2
      (fun j hj c hc => by rw [hm3, if_pos hj, hinv.motif j hj c hc]; exact (hM j c).symm)
      (fun c hc => by rw [hc3 c hc, hinv.bg c hc]; exact (hB c).symm)
      (by rw [hinv.count]; exact hC.symm),
      fun c hc => by rw [hc3 c hc]; exact Nat.le_add_right _ _⟩

/-! ### what `active_sequences()`, `active_starts()`, `count_matrix()` report

  The background is the integer `background_counts`; the `f32` frequencies of `background()` are
  not modelled. -/

theorem sum_map_filter_range (n : Nat) (p : Nat → Bool) (f : Nat → Nat) :
    (((List.range n).filter p).map f).sum = sumTo n (fun i => if p i = true then f i else 0) := by
  induction n with
  | zero => rfl
  | succ n ih =>
    rw [List.range_succ, List.filter_append, List.map_append, List.sum_append, ih, sumTo_succ]
    cases h : p n with
    | true => simp [List.filter, h]
    | false => simp [List.filter, h]

theorem zip_map_self {α : Type} (l : List Nat) (g : Nat → α) :
    l.zip (l.map g) = l.map (fun i => (i, g i)) := by
  simpa using List.zip_map' (f := id) (g := g) (l := l)

/-- count matrix recomputed from a reported alignment: the number of listed sequences whose window
    (at the listed start) has symbol `c` at offset `j` -/
def reportMotif (D : Data) (seqs starts : List Nat) (j c : Nat) : Nat :=
  ((seqs.zip starts).map (fun p => if (D.seq p.1).getD (p.2 + j) 0 = c then 1 else 0)).sum

/-- background counts recomputed from a reported alignment: symbols of the listed sequences outside
    their windows -/
def reportBg (D : Data) (w : Nat) (seqs starts : List Nat) (c : Nat) : Nat :=
  ((seqs.zip starts).map (fun p => outCount (D.seq p.1) p.2 w c)).sum

theorem zip_active {K : Nat} (s : State K) :
    (activeSequences s).zip (activeStarts s) =
      ((List.range s.active.data.size).filter (act s)).map (fun i => (i, st s i)) := by
  unfold activeStarts
  rw [zip_map_self]
  rfl

theorem reportMotif_eq {K : Nat} (D : Data) (s : State K) (hn : s.active.data.size = D.n) (j c : Nat) :
    reportMotif D (activeSequences s) (activeStarts s) j c = alignMotif D (st s) (act s) j c := by
  rw [reportMotif, zip_active, List.map_map, Function.comp_def, hn, sum_map_filter_range, alignMotif_eq]

theorem reportBg_eq {K : Nat} (D : Data) (w : Nat) (s : State K) (hn : s.active.data.size = D.n) (c : Nat) :
    reportBg D w (activeSequences s) (activeStarts s) c = alignBg D w (st s) (act s) c := by
  rw [reportBg, zip_active, List.map_map, Function.comp_def, hn, sum_map_filter_range]
  rfl

theorem activeSequences_length {K : Nat} (D : Data) (s : State K) (hn : s.active.data.size = D.n) :
    (activeSequences s).length = alignCount D (act s) := by
  have := sum_map_filter_range D.n (act s) (fun _ => 1)
  unfold alignCount
  rw [← this]
  have hl : ∀ l : List Nat, l.length = (l.map (fun _ => 1)).sum := by
    intro l
    induction l with
    | nil => rfl
    | cons a l ih => rw [List.length_cons, List.map_cons, List.sum_cons, ih, Nat.add_comm]
  show ((List.range s.active.data.size).filter (act s)).length = _
  rw [hn, hl]

/-- The property, in the words of the public API: the reported count matrix equals the counts of the
    windows at the reported starts of the reported active sequences; the background counts are the
    symbols of those sequences outside their windows; every reported start leaves its window inside
    its sequence; `count_matrix().sequence_count()` is the number of reported sequences. -/
structure Reported {K : Nat} (D : Data) (w : Nat) (s : State K) : Prop where
  motif : ∀ j, j < w → ∀ c, c < K →
    s.motif.get j c = reportMotif D (activeSequences s) (activeStarts s) j c
  bg : ∀ c, c < K → s.bg.getD c 0 = reportBg D w (activeSequences s) (activeStarts s) c
  inside : ∀ p, p ∈ (activeSequences s).zip (activeStarts s) → p.1 < D.n ∧ p.2 + w ≤ (D.seq p.1).size
  count : s.active.count = (activeSequences s).length
  rows : s.motif.rows = w

theorem reported_of_inv {K : Nat} {D : Data} {w : Nat} {s : State K} (h : Inv D w s) : Reported D w s := by
  constructor
  · intro j hj c hc; rw [reportMotif_eq D s h.nactive]; exact h.motif j hj c hc
  · intro c hc; rw [reportBg_eq D w s h.nactive]; exact h.bg c hc
  · intro p hp
    rw [zip_active, List.mem_map] at hp
    obtain ⟨i, hi, rfl⟩ := hp
    rw [List.mem_filter, List.mem_range, h.nactive] at hi
    exact ⟨hi.1, h.inside i hi.1⟩
  · rw [activeSequences_length D s h.nactive]; exact h.count
  · exact h.rows

end Sampler
end LMV
