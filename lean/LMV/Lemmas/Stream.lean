/-
  LMV.Lemmas.Stream — `read_until` / `read_line` over a chunked stream do not depend on the chunking:
  they split the data into `through d` and `after d`, whose lengths add up.
  Core Lean only, and it has to stay so: `Model/Uniprobe.lean` and `Model/Transfac.lean` import this
  file for the termination proofs of their line loops, and the driver is linked from the models.
-/
import LMV.Model.Stream

namespace LMV
namespace Io

theorem through_append_after (d : UInt8) (l : Bytes) : through d l ++ after d l = l := by
  fun_induction through d l with
  | case1 => rfl
  | case2 bs => simp [after]
  | case3 b bs h ih => simp [after, h, ih]

theorem length_through_add_after (d : UInt8) (l : Bytes) :
    (through d l).length + (after d l).length = l.length := by
  rw [← List.length_append, through_append_after]

theorem drop_through (d : UInt8) (l : Bytes) : l.drop (through d l).length = after d l := by
  conv => lhs; arg 2; rw [← through_append_after d l]
  exact List.drop_left

/-- the first `d` of `a ++ b` is that of `a` -/
theorem split_append_of_mem (d : UInt8) {a : Bytes} (h : d ∈ a) (b : Bytes) :
    through d (a ++ b) = through d a ∧ after d (a ++ b) = after d a ++ b := by
  induction a with
  | nil => cases h
  | cons x xs ih =>
    by_cases hx : x = d
    · simp only [List.cons_append, through, after, if_pos hx, and_self]
    · obtain ⟨h1, h2⟩ := ih ((List.mem_cons.mp h).resolve_left fun e => hx e.symm)
      simp only [List.cons_append, through, after, if_neg hx, h1, h2, and_self]

/-- … or, if `a` has none, that of `b` -/
theorem split_append (d : UInt8) {a : Bytes} (h : d ∉ a) (b : Bytes) :
    through d (a ++ b) = a ++ through d b ∧ after d (a ++ b) = after d b := by
  induction a with
  | nil => exact ⟨rfl, rfl⟩
  | cons x xs ih =>
    have hx : ¬ x = d := fun e => h (e ▸ List.mem_cons_self)
    obtain ⟨h1, h2⟩ := ih fun hm => h (List.mem_cons_of_mem _ hm)
    simp only [List.cons_append, through, after, if_neg hx, h1, h2, and_self]

/-- … which is the `d` that follows `a` -/
theorem split_append_cons (d : UInt8) {a : Bytes} (h : d ∉ a) (b : Bytes) :
    through d (a ++ d :: b) = a ++ [d] ∧ after d (a ++ d :: b) = b := by
  simpa [through, after] using split_append d h (d :: b)

theorem through_append (d : UInt8) {a : Bytes} (h : d ∉ a) (b : Bytes) :
    through d (a ++ b) = a ++ through d b := (split_append d h b).1

theorem after_append (d : UInt8) {a : Bytes} (h : d ∉ a) (b : Bytes) :
    after d (a ++ b) = after d b := (split_append d h b).2

theorem through_length_le (d : UInt8) (l : Bytes) : (through d l).length ≤ l.length :=
  Nat.le_of_add_right_le (Nat.le_of_eq (length_through_add_after d l))

theorem through_eq_self_of_not_mem (d : UInt8) (l : Bytes) (h : d ∉ l) :
    through d l = l := by
  simpa [through] using through_append d h []

theorem after_eq_nil_of_not_mem (d : UInt8) (l : Bytes) (h : d ∉ l) :
    after d l = [] := by
  simpa [after] using after_append d h []

theorem through_of_mem (d : UInt8) (l : Bytes) (h : d ∈ l) : ∃ p, through d l = p ++ [d] := by
  fun_induction through d l with
  | case1 => cases h
  | case2 bs => exact ⟨[], rfl⟩
  | case3 b bs hb ih =>
    obtain ⟨p, hp⟩ := ih ((List.mem_cons.mp h).resolve_left fun e => hb e.symm)
    exact ⟨b :: p, by rw [hp]; rfl⟩

theorem memchrWithin_some (d : UInt8) (k : Nat) (data : Bytes) (i : Nat)
    (h : memchrWithin d k data = some i) :
    data.take (i + 1) = through d data ∧ data.drop (i + 1) = after d data := by
  fun_induction memchrWithin d k data generalizing i with
  | case1 | case2 => cases h
  | case3 k bs => cases h; simp [through, after]
  | case4 k b bs hb ih =>
    obtain ⟨j, hj, rfl⟩ := Option.map_eq_some_iff.mp h
    obtain ⟨h1, h2⟩ := ih j hj
    simp [through, after, hb, h1, h2]

theorem memchrWithin_none (d : UInt8) (k : Nat) (data : Bytes)
    (h : memchrWithin d k data = none) : d ∉ data.take k := by
  fun_induction memchrWithin d k data with
  | case1 | case2 => simp
  | case3 k bs => cases h
  | case4 k b bs hb ih =>
    have := ih (Option.map_eq_none_iff.mp h)
    have hne : ¬ d = b := fun e => hb e.symm
    simp [hne, this]

theorem readUntil_eq (d : UInt8) (sched : List Nat) (data : Bytes) :
    (readUntil d sched data).1 = through d data ∧ (readUntil d sched data).2.1 = after d data := by
  fun_induction readUntil d sched data with
  | case1 | case2 => exact ⟨rfl, rfl⟩
  | case3 _ _ _ _ k i hi => rw [hi]; exact memchrWithin_some d k _ i hi
  | case4 _ _ b bs k hn ih =>
    -- the chunk holds no `d`: the split of the data is that of what follows the chunk
    have hs := split_append d (memchrWithin_none d k _ hn) ((b :: bs).drop k)
    rw [List.take_append_drop] at hs
    rw [hn]
    exact ⟨(congrArg _ ih.1).trans hs.1.symm, ih.2.trans hs.2.symm⟩

theorem readUntil_fst (d : UInt8) (sched : List Nat) (data : Bytes) :
    (readUntil d sched data).1 = through d data := (readUntil_eq d sched data).1

theorem readUntil_snd (d : UInt8) (sched : List Nat) (data : Bytes) :
    (readUntil d sched data).2.1 = after d data := (readUntil_eq d sched data).2

theorem readLine_eq (sched : List Nat) (data : Bytes) :
    (readLine sched data).1 = (if validUtf8 (through 0x0A data) then some (through 0x0A data) else none) ∧
    (readLine sched data).2.1 = after 0x0A data := by
  simp [readLine, readUntil_fst, readUntil_snd]

theorem readLine_snd (sched : List Nat) (data : Bytes) : (readLine sched data).2.1 = after 0x0A data :=
  readUntil_snd ..

theorem readLine_some {sched : List Nat} {data l : Bytes} (h : (readLine sched data).1 = some l) :
    l = through 0x0A data ∧ validUtf8 l = true := by
  rw [(readLine_eq sched data).1] at h
  split at h
  · cases h; exact ⟨rfl, ‹_›⟩
  · cases h

theorem readLine_conserve {sched : List Nat} {data l : Bytes} (h : (readLine sched data).1 = some l) :
    l.length + (readLine sched data).2.1.length = data.length := by
  obtain ⟨rfl, _⟩ := readLine_some h
  rw [readLine_snd]; exact length_through_add_after 0x0A data

theorem readLine_le (sched : List Nat) (data : Bytes) :
    (readLine sched data).2.1.length ≤ data.length := by
  rw [readLine_snd]; exact Nat.le_of_add_left_le (Nat.le_of_eq (length_through_add_after 0x0A data))

/-- what the line-reading loops of the models recurse on -/
theorem readLine_rest_lt {sched : List Nat} {data l : Bytes} (h : (readLine sched data).1 = some l)
    (hl : l ≠ []) : (readLine sched data).2.1.length < data.length :=
  Nat.lt_of_lt_of_eq (Nat.lt_add_of_pos_left (List.length_pos_iff.mpr hl)) (readLine_conserve h)

end Io
end LMV
