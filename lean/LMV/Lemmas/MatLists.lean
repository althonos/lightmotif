/-
  LMV.Lemmas.MatLists — the row-by-row view of a `Mat` (what `iter()` visits) in terms of `get`.
  (This file, like Mat.lean, may look at the representation.)
-/
import LMV.Model.Mat

namespace LMV
namespace Mat

variable {α : Type} {C : Nat}

theorem toLists_length (m : Mat α C) : m.toLists.length = m.rows := by
  rw [toLists, List.length_map, Array.length_toList, rows]

theorem toLists_eq_get [Inhabited α] (m : Mat α C) :
    m.toLists = (List.range m.rows).map fun r => (List.range C).map fun c => m.get r c := by
  apply List.ext_getElem
  · rw [toLists_length, List.length_map, List.length_range]
  · intro i h1 h2
    have hi : i < m.data.size := Nat.lt_of_lt_of_eq h1 (toLists_length m)
    simp only [toLists, List.getElem_map, Array.getElem_toList, List.getElem_range]
    apply List.ext_getElem
    · rw [Vector.length_toList, List.length_map, List.length_range]
    · intro j h3 h4
      have hj : j < C := Nat.lt_of_lt_of_eq h3 Vector.length_toList
      simp only [Vector.getElem_toList, get, getD, hi, getElem?_pos, List.getElem_map,
        List.getElem_range, hj, Option.getD_some]

end Mat
end LMV
