/-
  LMV.Lemmas.Dense — arithmetic of the row layout of `DenseMatrix` (`Dense.rowBytes`, `Dense.stride`).
  Offsets inside `n` rows of one pitch: `pos_add_le`, `pos_lt` of Lemmas/Sums.
-/
import LMV.Model.Dense
import LMV.Lemmas.Sums

namespace LMV
namespace Dense

theorem rowBytes_dvd (C size align : Nat) : align ∣ rowBytes C size align :=
  Nat.dvd_mul_left _ _

theorem rowBytes_ge (C size align : Nat) (ha : 0 < align) : C * size ≤ rowBytes C size align := by
  unfold rowBytes
  rw [Nat.add_sub_assoc ha]
  exact le_ceilDiv_mul ha _

theorem stride_mul_size (cols size align : Nat) (hd : size ∣ align) :
    stride cols size align * size = rowBytes cols size align := by
  unfold stride
  exact Nat.div_mul_cancel (Nat.dvd_trans hd (rowBytes_dvd cols size align))

end Dense
end LMV
