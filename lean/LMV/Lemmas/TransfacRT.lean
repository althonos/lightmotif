/-
  LMV.Lemmas.TransfacRT — round trip of the TRANSFAC format: records as lists of items (field
  lines in any order, `XX` lines, `P0` blocks): one item is one iteration of the record loop; the
  same text as lines is what the reader collects up to `//`.  Core Lean only.
-/
import LMV.Lemmas.Transfac
import LMV.Lemmas.Render
import LMV.Lemmas.Reader

namespace LMV
namespace Transfac

open Io Nom

variable {α : Type}

/-! ### the clauses of `WFField` and of a well-formed `P0` block, by name -/

namespace WFField

variable {v : Bytes} (h : WFField v)
include h

theorem trimmed : trim v = v := h.2.1
theorem no_lf : ∀ b ∈ v, b ≠ 0x0A := h.2.2.1
theorem utf8 : validUtf8 v = true := h.2.2.2

end WFField

namespace WFItem

variable {A : Alphabet} {conv : Bytes → Option α} {syms : List Nat} {rows : List (List Bytes)}
  (h : WFItem A conv (.matrix syms rows))
include h

theorem syms_ne : syms ≠ [] := h.1
theorem syms_lt : ∀ s ∈ syms, s < A.K := h.2.1
theorem syms_nodup : syms.Nodup := h.2.2.1
theorem rows_ne : rows ≠ [] := h.2.2.2.1
theorem rows_lt : rows.length < 4294967295 := h.2.2.2.2.1
theorem rows_ok : ∀ row ∈ rows, row.length = syms.length ∧
    ∀ lex ∈ row, Uniprobe.wfLex lex = true ∧ (conv lex).isSome = true := h.2.2.2.2.2

end WFItem

/-! ### field lines -/

theorem trim_field (v : Bytes) (h : WFField v) : trim (0x20 :: 0x20 :: v ++ [0x0A]) = v := by
  have hhead := h.1
  have htrim := h.trimmed
  cases v with
  | nil => exact absurd hhead (by simp)
  | cons b tl =>
    have hs : trimStart (b :: tl) = b :: tl := trimStart_ascii b tl hhead.1 hhead.2
    have he : trimEnd (b :: tl) = b :: tl := by
      have := htrim
      unfold trim at this
      rwa [hs] at this
    unfold trim
    rw [List.cons_append, List.cons_append, trimStart_blank, trimStart_blank]
    have hs2 : trimStart (b :: tl ++ [0x0A]) = b :: tl ++ [0x0A] := by
      exact trimStart_ascii b (tl ++ [0x0A]) hhead.1 hhead.2
    rw [hs2, trimEnd_newline, he]

theorem parseLine_eval (line rest : Bytes) (h : (0x0A : UInt8) ∉ line) :
    parseLine (line ++ 0x0A :: rest) = .ok rest (line ++ [0x0A]) := by
  unfold parseLine
  rw [if_pos (List.contains_iff_mem.mpr (List.mem_append_right _ List.mem_cons_self)),
    (split_append_cons _ h rest).1, (split_append_cons _ h rest).2]

theorem tagLine_field (a b : UInt8) (v : Bytes) (h : WFField v) (rest : Bytes) :
    tagLine a b (renderField a b v ++ rest) = .ok rest (0x20 :: 0x20 :: v ++ [0x0A]) := by
  apply preceded_eval (tag_eval _ _)
  have := parseLine_eval (0x20 :: 0x20 :: v) rest (by
    intro hm
    simp only [List.mem_cons] at hm
    rcases hm with hm | hm | hm
    · cases hm
    · cases hm
    · exact h.no_lf _ hm rfl)
  simpa using this

theorem parseTag_eval (a b : UInt8) (rest : Bytes) (ha : a < 0x80) (hb : b < 0x80)
    (hk : knownTags.contains (t a b) = true) : parseTag (a :: b :: rest) = .ok rest (t a b) := by
  have ca : charLen a = 1 := by simp [charLen, ha]
  have cb : charLen b = 1 := by simp [charLen, hb]
  simp only [parseTag, takeChars, splitChars, ca, cb, Nat.sub_self, List.drop_zero, List.take_zero]
  exact if_pos hk

/-! ### one item, one iteration of the record loop -/

/-- decides the tests on the tag in `recordStep`'s chain of `if`s -/
theorem t_inj (a b c d : UInt8) : t a b = t c d ↔ a = c ∧ b = d := by simp [t]

variable (A : Alphabet) (conv : Bytes → Option α) (zero : α)

/-- `harm` is the arm of the tag `a b`: only a concrete tag selects it in `recordStep`'s chain of `if`s,
    so the caller supplies it -/
theorem recordStep_field (a b : UInt8) (ha : a < 0x80) (hb : b < 0x80)
    (hk : knownTags.contains (t a b) = true) (r : TRecord α A.K) (upd : Bytes → TRecord α A.K)
    (v : Bytes) (h : WFField v) (rest : Bytes)
    (harm : ∀ i r0, parseTag i = .ok r0 (t a b) → recordStep A conv zero space1 r i
      = stepOf A.K (tagLine a b i) fun rest line => .continue rest (upd (trim line))) :
    recordStep A conv zero space1 r (renderField a b v ++ rest) = .continue rest (upd v) := by
  have hp : parseTag (renderField a b v ++ rest) = .ok (0x20 :: 0x20 :: v ++ [0x0A] ++ rest) (t a b) :=
    parseTag_eval a b _ ha hb hk
  rw [harm _ _ hp, tagLine_field a b v h rest]
  simp only [stepOf, trim_field v h]

/-- the `XX` line, like the `//` line below, is a fixed text and the parsers stop before `rest`: by
    evaluation (the tactic; the term `rfl` is twice as dear to check) -/
theorem recordStep_xx (r : TRecord α A.K) (rest : Bytes) :
    recordStep A conv zero space1 r (renderItem A .xx ++ rest)
      = .continue rest (applyItem A conv zero r .xx) := by rfl

theorem recordStep_end (r : TRecord α A.K) :
    recordStep A conv zero space1 r [0x2F, 0x2F, 0x0A] = .finish [] r := by rfl

/-! ### the `P0` block -/

def symsText (syms : List Nat) : Bytes := syms.flatMap fun s => [0x20, A.letters.getD s 0]

theorem space1_blank_letter (hB : Uniprobe.LettersNotBlank A) (s : Nat) (hs : s < A.K) (y : Bytes) :
    space1 (0x20 :: A.letters.getD s 0 :: y) = .ok (A.letters.getD s 0 :: y) [0x20] :=
  space1_blank _ (isSpace_of_not_ws (hB s hs))

theorem symsText_cons (s : Nat) (ss : List Nat) (y : Bytes) :
    symsText A (s :: ss) ++ y = 0x20 :: A.letters.getD s 0 :: (symsText A ss ++ y) := by
  rfl

theorem sepLoop_syms (hA : A.LettersOK) (hB : Uniprobe.LettersNotBlank A) (syms : List Nat)
    (hs : ∀ s ∈ syms, s < A.K) (rest : Bytes) :
    ∀ acc : List Nat, sepLoop space1 (symbol A) (symsText A syms ++ 0x0A :: rest) acc
      = .ok (0x0A :: rest) (acc.reverse ++ syms) := by
  induction syms with
  | nil =>
    intro acc
    rw [sepLoop, List.append_nil]
    rfl
  | cons s ss ih =>
    intro acc
    have hsK := hs s List.mem_cons_self
    rw [symsText_cons, sepLoop, space1_blank_letter A hB s hsK]
    simp only
    rw [if_pos (by exact Nat.lt_succ_self _), symbol_letter hA s hsK]
    simp only
    rw [if_pos (by exact Nat.le_succ _), ih (fun s' h' => hs s' (List.mem_cons_of_mem _ h')) (s :: acc)]
    simp

theorem parseAlphabet_render (hA : A.LettersOK) (hB : Uniprobe.LettersNotBlank A) (syms : List Nat)
    (hne : syms ≠ []) (hs : ∀ s ∈ syms, s < A.K) (rest : Bytes) :
    parseAlphabetWith space1 A (0x50 :: 0x30 :: (symsText A syms ++ 0x0A :: rest)) = .ok rest syms := by
  cases syms with
  | nil => exact absurd rfl hne
  | cons s ss =>
    have hsK := hs s List.mem_cons_self
    have htag : alt (tag (t 0x50 0x4F)) (tag (t 0x50 0x30))
        (0x50 :: 0x30 :: (symsText A (s :: ss) ++ 0x0A :: rest))
        = .ok (symsText A (s :: ss) ++ 0x0A :: rest) (t 0x50 0x30) := by
      have h1 : tag (t 0x50 0x4F) (0x50 :: 0x30 :: (symsText A (s :: ss) ++ 0x0A :: rest)) = .err := rfl
      unfold alt
      rw [h1]
      exact tag_eval (t 0x50 0x30) (symsText A (s :: ss) ++ 0x0A :: rest)
    have hlist : sepList1 space1 (symbol A) (A.letters.getD s 0 :: (symsText A ss ++ 0x0A :: rest))
        = .ok (0x0A :: rest) (s :: ss) := by
      unfold sepList1
      rw [symbol_letter hA s hsK]
      simp only
      rw [sepLoop_syms A hA hB ss (fun s' h' => hs s' (List.mem_cons_of_mem _ h')) rest [s]]
      rfl
    apply delimited_eval htag _ (lineEnding_lf rest)
    exact preceded_eval (space1_blank_letter A hB s hsK _) hlist

def rowBody (lexs : List Bytes) : Bytes := lexs.flatMap fun l => l ++ [0x20]

theorem rowBody_cons_append (lex : Bytes) (ls : List Bytes) (x : Bytes) :
    rowBody (lex :: ls) ++ x = lex ++ 0x20 :: (rowBody ls ++ x) := by
  simp [rowBody]

theorem rowBody_startsNot_space (ls : List Bytes) (h : ∀ lex ∈ ls, Uniprobe.wfLex lex = true) (rest : Bytes) :
    StartsNot isSpace (rowBody ls ++ 0x0A :: rest) := by
  cases ls with
  | nil => simp only [rowBody, List.flatMap_nil, List.nil_append, StartsNot]; decide
  | cons l ls' =>
    obtain ⟨b, tl, hl, hb⟩ := Uniprobe.wfLex_head l (h l List.mem_cons_self)
    simp only [rowBody, List.flatMap_cons, hl, List.cons_append, StartsNot]
    exact isDigit_not_space hb

theorem rowElem (pre : Bytes) (hpre : ∀ b ∈ pre, isSpace b = true) (lex : Bytes)
    (h : Uniprobe.wfLex lex = true) (hv : (conv lex).isSome = true) (y : Bytes) (hy : StartsNot isSpace y) :
    delimited space0 (float conv) space0 (pre ++ (lex ++ 0x20 :: y)) = .ok y ((conv lex).getD zero) := by
  obtain ⟨v, hv'⟩ := Option.isSome_iff_exists.mp hv
  obtain ⟨b, tl, hl, hb⟩ := Uniprobe.wfLex_head lex h
  have hstart : StartsNot isSpace (lex ++ 0x20 :: y) := by
    rw [hl]; simp only [List.cons_append, StartsNot]; exact isDigit_not_space hb
  rw [hv']
  exact delimited_eval (space0_eval pre _ hpre hstart)
    (float_lex conv lex h v hv' 0x20 (Or.inr (Or.inr rfl)) y)
    (space0_eval [0x20] y (by simp [isSpace]) hy)

/-- `pre` are the blanks after the row number.  `hne` is what the induction needs: `count 0` reads
    nothing, so an empty row leaves `pre`. -/
theorem count_row (pre : Bytes) (hpre : ∀ b ∈ pre, isSpace b = true) (lexs : List Bytes)
    (h : ∀ lex ∈ lexs, Uniprobe.wfLex lex = true ∧ (conv lex).isSome = true)
    (hne : lexs ≠ [] ∨ pre = []) (rest : Bytes) :
    count (delimited space0 (float conv) space0) lexs.length (pre ++ (rowBody lexs ++ 0x0A :: rest))
      = .ok (0x0A :: rest) (values conv zero lexs) := by
  induction lexs generalizing pre with
  | nil =>
    obtain rfl := hne.resolve_left (fun h => h rfl)
    rfl
  | cons lex ls ih =>
    obtain ⟨h1, h2⟩ := h lex List.mem_cons_self
    have hls : ∀ l ∈ ls, Uniprobe.wfLex l = true := fun l hl => (h l (List.mem_cons_of_mem _ hl)).1
    rw [rowBody_cons_append]
    exact count_succ (rowElem conv zero pre hpre lex h1 h2 _ (rowBody_startsNot_space ls hls rest))
      (ih [] (fun _ hb => nomatch hb) (fun l hl => h l (List.mem_cons_of_mem _ hl)) (Or.inr rfl))

theorem renderRows_cons (i : Nat) (lexs : List Bytes) (rows : List (List Bytes)) :
    renderRows i (lexs :: rows) =
      Jaspar.digits (i + 1) ++ 0x20 :: (rowBody lexs ++ 0x0A :: renderRows (i + 1) rows) := by
  simp [renderRows, rowBody]

theorem parseRow_render (i : Nat) (hi : i + 1 < 4294967296) (lexs : List Bytes) (hne : lexs ≠ [])
    (h : ∀ lex ∈ lexs, Uniprobe.wfLex lex = true ∧ (conv lex).isSome = true) (rest : Bytes) :
    parseRow conv lexs.length (Jaspar.digits (i + 1) ++ 0x20 :: (rowBody lexs ++ 0x0A :: rest))
      = .ok rest (values conv zero lexs) := by
  have hu : u32 (Jaspar.digits (i + 1) ++ 0x20 :: (rowBody lexs ++ 0x0A :: rest))
      = .ok (0x20 :: (rowBody lexs ++ 0x0A :: rest)) (i + 1) :=
    Jaspar.uint_digits _ (i + 1) hi _ (by simp only [StartsNot]; decide)
  have hl : parseLine (0x0A :: rest) = .ok rest [0x0A] := by
    have := parseLine_eval [] rest (by simp)
    simpa using this
  exact delimited_eval hu (count_row conv zero [0x20] (by simp [isSpace]) lexs h (Or.inl hne) rest) hl

theorem parseRow_stop (k : Nat) (rest : Bytes) (h : StartsNot isDigit rest) :
    parseRow conv k rest = .err := by
  have hu : u32 rest = .err := by
    cases rest with
    | nil => rfl
    | cons b bs => simp only [StartsNot] at h; simp [u32, uint, h]
  simp [parseRow, delimited, preceded, pmap, pair, hu, PRes.map]

def RowsOK (k : Nat) (rows : List (List Bytes)) : Prop :=
  ∀ row ∈ rows, row.length = k ∧ row ≠ [] ∧
    ∀ lex ∈ row, Uniprobe.wfLex lex = true ∧ (conv lex).isSome = true

theorem manyLoop_rows (k : Nat) (rows : List (List Bytes)) (hrows : RowsOK conv k rows) (rest : Bytes)
    (hrest : StartsNot isDigit rest) :
    ∀ (i : Nat) (acc : List (List α)), i + rows.length < 4294967296 →
      manyLoop (parseRow conv k) (renderRows i rows ++ rest) acc
        = .ok rest (acc.reverse ++ rows.map (values conv zero)) := by
  induction rows with
  | nil =>
    intro i acc _
    simpa [renderRows] using manyLoop_nil (parseRow_stop conv k rest hrest) acc
  | cons lexs rows ih =>
    intro i acc hi
    obtain ⟨hk, hne, hlex⟩ := hrows lexs List.mem_cons_self
    have hi' : i + 1 + rows.length < 4294967296 := by rw [Nat.add_right_comm]; exact hi
    have hp := parseRow_render conv zero i (Nat.lt_of_le_of_lt (Nat.le_add_right ..) hi') lexs hne hlex
      (renderRows (i + 1) rows ++ rest)
    rw [hk] at hp
    rw [renderRows_cons, List.append_assoc, List.cons_append, List.append_assoc, List.cons_append,
      manyLoop_cons hp (strict_parseRow conv k _ _ _ hp),
      ih (fun r hr => hrows r (List.mem_cons_of_mem _ hr)) (i + 1) _ hi']
    simp

theorem many1_rows (k : Nat) (rows : List (List Bytes)) (hne : rows ≠ []) (hrows : RowsOK conv k rows)
    (hlen : rows.length < 4294967296) (rest : Bytes) (hrest : StartsNot isDigit rest) :
    many1 (parseRow conv k) (renderRows 0 rows ++ rest)
      = .ok rest (rows.map (values conv zero)) :=
  many1_of_manyLoop (by simpa using manyLoop_rows conv zero k rows hrows rest hrest 0 [] (by rwa [Nat.zero_add]))
    (by simpa using hne)

/-! ### filling the matrix -/

section Fill
variable {K : Nat} [Inhabited α]

/-- the catch-all arm of `fillRow`, as `fun_induction` states it -/
theorem zip_eq_nil_of_not_cons {β γ : Type} {l₁ : List β} {l₂ : List γ}
    (h : ∀ a as b bs, l₁ = a :: as → l₂ = b :: bs → False) : l₁.zip l₂ = [] := by
  cases l₁ with
  | nil => rfl
  | cons a as =>
    cases l₂ with
    | nil => rfl
    | cons b bs => exact (h a as b bs rfl rfl).elim

theorem fillRow_spec (i : Nat) (syms : List Nat) (hs : ∀ s ∈ syms, s < K) (hnd : syms.Nodup)
    (row : List α) (m : Mat α K) (hi : i < m.rows) :
    ∃ m', fillRow m i syms row = some m' ∧ m'.rows = m.rows ∧
      ∀ r c, m'.get r c =
        if r = i then
          (match (syms.zip row).find? (·.1 == c) with
           | some p => p.2
           | none => m.get r c)
        else m.get r c := by
  fun_induction fillRow m i syms row with
  | case1 m s ss x xs hc ih =>
    obtain ⟨hnd1, hnd2⟩ := List.nodup_cons.mp hnd
    obtain ⟨m', h1, h2, h3⟩ := ih (fun s' h' => hs s' (List.mem_cons_of_mem _ h')) hnd2
      (by rwa [Mat.rows_set])
    refine ⟨m', h1, h2.trans (Mat.rows_set ..), fun r c => ?_⟩
    rw [h3 r c, Mat.get_set]
    by_cases hr : r = i
    · rw [if_pos hr, if_pos hr, List.zip_cons_cons]
      by_cases hc' : s = c
      · subst hc'
        have hnone : (ss.zip xs).find? (·.1 == s) = none :=
          List.find?_eq_none.mpr fun p hp hps =>
            hnd1 ((by simpa using hps : p.1 = s) ▸ (List.of_mem_zip hp).1)
        rw [List.find?_cons_of_pos (p := fun p : Nat × α => p.1 == s) (beq_iff_eq.mpr rfl), hnone]
        exact if_pos ⟨hr, rfl, hc⟩
      · rw [List.find?_cons_of_neg (p := fun p : Nat × α => p.1 == c) (by simpa using hc'),
          if_neg fun e => hc' e.2.1.symm]
    · rw [if_neg hr, if_neg hr, if_neg fun e => hr e.1]
  | case2 m s ss x xs hc => exact absurd ⟨hi, hs s List.mem_cons_self⟩ hc
  | case3 t m x hx =>
    refine ⟨m, rfl, rfl, fun r c => ?_⟩
    rw [zip_eq_nil_of_not_cons hx]
    exact (ite_self _).symm

/-- rows below `i0` are left alone; row `i0 + k` holds `rows[k]` (nothing, beyond the last row) -/
theorem fillRows_spec (syms : List Nat) (hs : ∀ s ∈ syms, s < K) (hnd : syms.Nodup)
    (rows : List (List α)) :
    ∀ (m : Mat α K) (i0 : Nat), i0 + rows.length ≤ m.rows →
      ∃ m', fillRows m syms i0 rows = some m' ∧ m'.rows = m.rows ∧
        (∀ r c, r < i0 → m'.get r c = m.get r c) ∧
        ∀ k c, m'.get (i0 + k) c =
          match (syms.zip (rows.getD k [])).find? (·.1 == c) with
          | some p => p.2
          | none => m.get (i0 + k) c := by
  induction rows with
  | nil =>
    intro m i0 _
    exact ⟨m, rfl, rfl, fun _ _ _ => rfl, fun k c => by rw [List.getD_nil, List.zip_nil_right]; rfl⟩
  | cons row rows ih =>
    intro m i0 h
    rw [List.length_cons, ← Nat.add_assoc, Nat.add_right_comm] at h
    obtain ⟨m1, f1, f2, f3⟩ := fillRow_spec i0 syms hs hnd row m (Nat.le_trans (Nat.le_add_right ..) h)
    obtain ⟨m', g1, g2, g3, g4⟩ := ih m1 (i0 + 1) (f2 ▸ h)
    refine ⟨m', by simp only [fillRows, f1]; exact g1, g2.trans f2, fun r c hr => ?_, fun k c => ?_⟩
    · rw [g3 r c (Nat.lt_succ_of_lt hr), f3 r c, if_neg (Nat.ne_of_lt hr)]
    · cases k with
      | zero => rw [Nat.add_zero, g3 _ c (Nat.lt_succ_self _), f3, if_pos rfl]; rfl
      | succ k =>
        have hne : i0 + 1 + k ≠ i0 :=
          Nat.ne_of_gt (Nat.lt_of_lt_of_le (Nat.lt_succ_self _) (Nat.le_add_right ..))
        rw [← Nat.add_assoc, Nat.add_right_comm, g4 k c, f3, if_neg hne]
        rfl

end Fill

theorem fillRows_expect (syms : List Nat) (hs : ∀ s ∈ syms, s < A.K) (hnd : syms.Nodup)
    (rows : List (List Bytes)) :
    fillRows ((Mat.empty : Mat α A.K).resize rows.length zero) syms 0
      (rows.map (values conv zero)) = some (expectData A conv zero syms rows) := by
  -- `fillRows_spec` speaks of `Mat.get`, which reads `default` out of range: let that be `zero`
  letI : Inhabited α := ⟨zero⟩
  obtain ⟨m', g1, g2, -, g3⟩ := fillRows_spec syms hs hnd (rows.map (values conv zero))
    ((Mat.empty : Mat α A.K).resize rows.length zero) 0 (by simp)
  rw [g1]
  congr 1
  apply Mat.ext
  · rw [g2, Mat.rows_resize, expectData, Mat.rows_ofFn]
  · intro i j hi hj
    rw [g2] at hi
    simp only [Mat.rows_resize] at hi
    rw [← Nat.zero_add i, g3 i j, Nat.zero_add]
    simp only [expectData, Mat.get_ofFn, hi, hj, and_self, if_true]
    have hrow : (rows.map (values conv zero)).getD i [] = values conv zero (rows.getD i []) := by
      rw [List.getD_eq_getElem?_getD, List.getElem?_map, List.getD_eq_getElem?_getD,
        List.getElem?_eq_getElem hi]
      rfl
    rw [hrow]
    have hzip : syms.zip (values conv zero (rows.getD i [])) =
        (syms.zip (rows.getD i [])).map (fun p => (p.1, (conv p.2).getD zero)) := List.zip_map_right
    rw [hzip, List.find?_map]
    have hcomp : ((fun (p : Nat × α) => p.1 == j) ∘ fun (p : Nat × Bytes) => (p.1, (conv p.2).getD zero))
        = fun p => p.1 == j := rfl
    rw [hcomp]
    cases (syms.zip (rows.getD i [])).find? (fun p => p.1 == j) with
    | some p => rfl
    | none => simp [hi, hj]

theorem recordStep_matrix (hA : A.LettersOK) (hB : Uniprobe.LettersNotBlank A) (r : TRecord α A.K)
    (syms : List Nat) (rows : List (List Bytes)) (h : WFItem A conv (.matrix syms rows)) (rest : Bytes)
    (hrest : StartsNot isDigit rest) :
    recordStep A conv zero space1 r (renderItem A (.matrix syms rows) ++ rest)
      = .continue rest (applyItem A conv zero r (.matrix syms rows)) := by
  have hne := h.syms_ne
  have hK := h.syms_lt
  have hnd := h.syms_nodup
  have hrows := h.rows_ok
  have e : renderItem A (.matrix syms rows) ++ rest =
      0x50 :: 0x30 :: (symsText A syms ++ 0x0A :: (renderRows 0 rows ++ rest)) :=
    List.append_assoc (0x50 :: 0x30 :: symsText A syms) (0x0A :: renderRows 0 rows) rest
  have hp := parseTag_eval 0x50 0x30 (symsText A syms ++ 0x0A :: (renderRows 0 rows ++ rest))
    (by decide) (by decide) (by decide)
  have hal := parseAlphabet_render A hA hB syms hne hK (renderRows 0 rows ++ rest)
  have hrowsOK : RowsOK conv syms.length rows := fun row hr =>
    ⟨(hrows row hr).1, fun e => by
      -- an empty row would be as long as `syms`, which is not empty
      have h0 : syms.length = 0 := (hrows row hr).1.symm.trans (congrArg List.length e)
      exact hne (List.length_eq_zero_iff.mp h0), (hrows row hr).2⟩
  -- the rows are labelled `1 … rows.length` and `u32` reads the label: `rows.length < 2^32` is what
  -- is needed, `WFItem` asks one less
  have hmany := many1_rows conv zero syms.length rows h.rows_ne hrowsOK (Nat.lt_succ_of_lt h.rows_lt)
    rest hrest
  rw [e]
  simp [recordStep, hp, stepOf, hal, hmany, fillRows_expect A conv zero syms hK hnd rows, applyItem, t_inj]

/-! ### a whole record -/

/-- the first byte of a rendered item is not a digit (the rows of a `P0` block stop before it) and
    not `V` (a rendered file has no `VV` header for `Reader::new` to take off) -/
theorem renderItem_head (it : Item) (rest : Bytes) :
    ∃ b y, renderItem A it ++ rest = b :: y ∧ isDigit b = false ∧ b ≠ 0x56 := by
  cases it with
  | ac v => exact ⟨0x41, _, rfl, by decide, by decide⟩
  | id v => exact ⟨0x49, _, rfl, by decide, by decide⟩
  | na v => exact ⟨0x4E, _, rfl, by decide, by decide⟩
  | de v => exact ⟨0x44, _, rfl, by decide, by decide⟩
  | xx => exact ⟨0x58, _, rfl, by decide, by decide⟩
  | «matrix» syms rows => exact ⟨0x50, _, rfl, by decide, by decide⟩

theorem items_startsNot_digit (items : List Item) :
    StartsNot isDigit (items.flatMap (renderItem A) ++ [0x2F, 0x2F, 0x0A]) := by
  cases items with
  | nil => simp only [List.flatMap_nil, List.nil_append, StartsNot]; decide
  | cons it rest =>
    obtain ⟨b, y, e, hb, _⟩ := renderItem_head A it (rest.flatMap (renderItem A) ++ [0x2F, 0x2F, 0x0A])
    rw [List.flatMap_cons, List.append_assoc, e]
    exact hb

theorem recordStep_item (hA : A.LettersOK) (hB : Uniprobe.LettersNotBlank A) (r : TRecord α A.K)
    (it : Item) (h : WFItem A conv it) (rest : Bytes) (hrest : StartsNot isDigit rest) :
    recordStep A conv zero space1 r (renderItem A it ++ rest)
      = .continue rest (applyItem A conv zero r it) := by
  cases it with
  | ac v =>
    exact recordStep_field A conv zero 0x41 0x43 (by decide) (by decide) (by decide) r
      (fun x => { r with accession := some x }) v h rest
      (fun i r0 hp => by simp [recordStep, hp, stepOf])
  | id v =>
    exact recordStep_field A conv zero 0x49 0x44 (by decide) (by decide) (by decide) r
      (fun x => { r with id := some x }) v h rest
      (fun i r0 hp => by simp [recordStep, hp, stepOf, t_inj])
  | na v =>
    exact recordStep_field A conv zero 0x4E 0x41 (by decide) (by decide) (by decide) r
      (fun x => { r with name := some x }) v h rest
      (fun i r0 hp => by simp [recordStep, hp, stepOf, t_inj])
  | de v =>
    exact recordStep_field A conv zero 0x44 0x45 (by decide) (by decide) (by decide) r
      (fun x => { r with description := some x }) v h rest
      (fun i r0 hp => by simp [recordStep, hp, stepOf, t_inj])
  | xx => exact recordStep_xx A conv zero r rest
  | «matrix» syms rows => exact recordStep_matrix A conv zero hA hB r syms rows h rest hrest

theorem recordLoop_items (hA : A.LettersOK) (hB : Uniprobe.LettersNotBlank A) (items : List Item)
    (hwf : ∀ it ∈ items, WFItem A conv it) :
    ∀ r : TRecord α A.K,
      recordLoop A conv zero space1 r (items.flatMap (renderItem A) ++ [0x2F, 0x2F, 0x0A])
        = .ok [] (items.foldl (applyItem A conv zero) r) := by
  induction items with
  | nil =>
    intro r
    rw [recordLoop]
    simp only [List.flatMap_nil, List.nil_append, recordStep_end A conv zero r, List.foldl_nil]
  | cons it rest ih =>
    intro r
    have hstep := recordStep_item A conv zero hA hB r it (hwf it List.mem_cons_self)
      (rest.flatMap (renderItem A) ++ [0x2F, 0x2F, 0x0A]) (items_startsNot_digit A rest)
    rw [List.flatMap_cons, List.append_assoc, recordLoop, hstep]
    simp only
    rw [if_pos (recordStep_lt A conv zero r _ _ _ hstep), ih (fun it' h' => hwf it' (List.mem_cons_of_mem _ h'))]
    rfl

theorem parseRecord_render (hA : A.LettersOK) (hB : Uniprobe.LettersNotBlank A) (items : List Item)
    (hwf : ∀ it ∈ items, WFItem A conv it) :
    parseRecord A conv zero (render1 A items) = .ok [] (expect A conv zero items) := by
  exact recordLoop_items A conv zero hA hB items hwf {}

/-! ### the text of a record as lines

The parser takes a record item by item, the reader collects it line by line up to `//`: the same
text is cut a second way here, and every line is shown to be one the reader passes on. -/

def unlines (ls : List Bytes) : Bytes := ls.flatMap fun l => l ++ [0x0A]

def rowLines : Nat → List (List Bytes) → List Bytes
  | _, [] => []
  | i, lexs :: rest => (Jaspar.digits (i + 1) ++ 0x20 :: rowBody lexs) :: rowLines (i + 1) rest

def itemLines : Item → List Bytes
  | .ac v => [0x41 :: 0x43 :: 0x20 :: 0x20 :: v]
  | .id v => [0x49 :: 0x44 :: 0x20 :: 0x20 :: v]
  | .na v => [0x4E :: 0x41 :: 0x20 :: 0x20 :: v]
  | .de v => [0x44 :: 0x45 :: 0x20 :: 0x20 :: v]
  | .xx => [[0x58, 0x58]]
  | .matrix syms rows => (0x50 :: 0x30 :: symsText A syms) :: rowLines 0 rows

theorem renderRows_lines (i : Nat) (rows : List (List Bytes)) :
    renderRows i rows = unlines (rowLines i rows) := by
  induction rows generalizing i with
  | nil => rfl
  | cons lexs rest ih =>
    rw [renderRows_cons, ih]
    simp [unlines, rowLines]

theorem renderItem_lines (it : Item) : renderItem A it = unlines (itemLines A it) := by
  cases it with
  | «matrix» syms rows =>
    rw [renderItem, renderRows_lines]
    exact (List.append_assoc _ [0x0A] _).symm
  | xx => rfl
  | _ => exact (List.append_nil _).symm

/-- a line the reader appends to its buffer and goes on: valid text without a line feed that does not
    start the `//` line (no rendered line starts with `/`) -/
def LineOK (line : Bytes) : Prop := Plain 0x0A line ∧ line.head? ≠ some 0x2F

theorem fieldLine_ok (a b : UInt8) (ha : a < 0x80 ∧ a ≠ 0x0A ∧ a ≠ 0x2F) (hb : b < 0x80 ∧ b ≠ 0x0A)
    (v : Bytes) (h : WFField v) : LineOK (a :: b :: 0x20 :: 0x20 :: v) :=
  ⟨.cons ha.1 ha.2.1 (.cons hb.1 hb.2 (.cons (by decide) (by decide) (.cons (by decide) (by decide)
    ⟨fun hm => h.no_lf _ hm rfl, h.utf8⟩))), by simpa using ha.2.2⟩

theorem plain_rowBody (lexs : List Bytes) (h : ∀ lex ∈ lexs, Uniprobe.wfLex lex = true) :
    Plain 0x0A (rowBody lexs) :=
  .flatMap fun lex hl => (Uniprobe.plain_lex lex (h lex hl)).append (.ascii (by decide))

theorem rowLines_ok (rows : List (List Bytes))
    (h : ∀ row ∈ rows, ∀ lex ∈ row, Uniprobe.wfLex lex = true) :
    ∀ i, ∀ line ∈ rowLines i rows, LineOK line := by
  induction rows with
  | nil => intro i line hl; simp [rowLines] at hl
  | cons lexs rest ih =>
    intro i line hl
    simp only [rowLines, List.mem_cons] at hl
    rcases hl with hl | hl
    · rw [hl]
      refine ⟨.append (plain_digits (by decide) fun _ => Jaspar.digits_isDigit (i + 1))
        (.cons (by decide) (by decide) (plain_rowBody lexs (h lexs List.mem_cons_self))), ?_⟩
      obtain ⟨b, bs, hd, hb⟩ := Jaspar.digits_head (i + 1)
      rw [hd]
      simp only [List.cons_append, List.head?_cons, ne_eq, Option.some.injEq]
      exact isDigit_ne hb (by decide)
    · exact ih (fun row hr => h row (List.mem_cons_of_mem _ hr)) (i + 1) line hl

theorem itemLines_ok (hA : A.LettersOK) (hB : Uniprobe.LettersNotBlank A) (it : Item)
    (h : WFItem A conv it) : ∀ line ∈ itemLines A it, LineOK line := by
  cases it with
  | ac v | id v | na v | de v =>
    intro line hl; simp only [itemLines, List.mem_singleton] at hl; rw [hl]
    exact fieldLine_ok _ _ (by decide) (by decide) v h
  | xx =>
    intro line hl; simp only [itemLines, List.mem_singleton] at hl; rw [hl]
    exact ⟨.ascii (by decide), by decide⟩
  | «matrix» syms rows =>
    have hK := h.syms_lt
    have hrows := h.rows_ok
    intro line hl
    simp only [itemLines, List.mem_cons] at hl
    rcases hl with hl | hl
    · rw [hl]
      refine ⟨.cons (by decide) (by decide) (.cons (by decide) (by decide) (.flatMap fun s hs => ?_)),
        by simp⟩
      have := hB s (hK s hs)
      exact .cons (by decide) (by decide) (.cons (hA.ascii (hK s hs))
        (fun e => by rw [e] at this; revert this; decide) .nil)
    · exact rowLines_ok rows (fun row hr lex hlx => ((hrows row hr).2 lex hlx).1) 0 line hl

def recLines (items : List Item) : List Bytes := items.flatMap (itemLines A)

theorem render1_lines (items : List Item) :
    render1 A items = unlines (recLines A items) ++ [0x2F, 0x2F, 0x0A] := by
  unfold render1 recLines unlines
  congr 1
  induction items with
  | nil => rfl
  | cons it rest ih =>
    simp only [List.flatMap_cons, List.flatMap_append, ih]
    rw [renderItem_lines]
    rfl

theorem recLines_ok (hA : A.LettersOK) (hB : Uniprobe.LettersNotBlank A) (items : List Item)
    (hwf : ∀ it ∈ items, WFItem A conv it) : ∀ line ∈ recLines A items, LineOK line := by
  intro line hl
  simp only [recLines, List.mem_flatMap] at hl
  obtain ⟨it, hit, hl⟩ := hl
  exact itemLines_ok A conv hA hB it (hwf it hit) line hl

/-! ### the reader on a rendered file -/

theorem not_slashes (line : Bytes) (h : line.head? ≠ some 0x2F) :
    (t 0x2F 0x2F).isPrefixOf (line ++ [0x0A]) = false := by
  cases line with
  | nil => decide
  | cons b tl =>
    have : b ≠ 0x2F := by simpa using h
    have hb : ((0x2F : UInt8) == b) = false := decide_eq_false fun e => this e.symm
    simp [t, List.isPrefixOf, hb]

theorem unlines_cons_append (line : Bytes) (rest : List Bytes) (x : Bytes) :
    unlines (line :: rest) ++ x = line ++ 0x0A :: (unlines rest ++ x) := by
  simp [unlines]

theorem append_unlines_cons (buffer line : Bytes) (rest : List Bytes) :
    buffer ++ unlines (line :: rest) = buffer ++ (line ++ [0x0A]) ++ unlines rest :=
  (List.append_assoc ..).symm

/-- `newLoop` leaves `last` at the start of the `//` line -/
theorem newLoop_lines (lines : List Bytes) (hl : ∀ line ∈ lines, LineOK line) (more : Bytes) :
    ∀ (buffer : Bytes) (sched : List Nat),
      ∃ s', newLoop buffer buffer.length sched (unlines lines ++ 0x2F :: 0x2F :: 0x0A :: more)
        = .ok (buffer ++ unlines lines ++ ([0x2F, 0x2F, 0x0A] : Bytes))
            (buffer ++ unlines lines).length none more s' := by
  induction lines with
  | nil =>
    intro buffer sched
    obtain ⟨h1, h2⟩ := readLine_line sched [0x2F, 0x2F] more (.ascii (by decide))
    change ∃ s', newLoop buffer buffer.length sched ([0x2F, 0x2F] ++ 0x0A :: more) = _
    exact ⟨_, by rw [newLoop_eq, h1, h2, show unlines [] = [] from rfl, List.append_nil]; rfl⟩
  | cons line rest ih =>
    intro buffer sched
    obtain ⟨k1, k2⟩ := hl line List.mem_cons_self
    obtain ⟨h1, h2⟩ := readLine_line sched line (unlines rest ++ 0x2F :: 0x2F :: 0x0A :: more) k1
    rw [unlines_cons_append, newLoop_eq, h1, h2, append_unlines_cons]
    simp only [List.append_eq_nil_iff, List.cons_ne_nil, and_false, if_false, not_slashes line k2]
    exact ih (fun l' h' => hl l' (List.mem_cons_of_mem _ h')) _ _

/-- … and `nextLoop` past it -/
theorem nextLoop_lines (lines : List Bytes) (hl : ∀ line ∈ lines, LineOK line) (more : Bytes)
    (buffer : Bytes) (sched : List Nat) :
    ∃ s', nextLoop buffer buffer.length sched (unlines lines ++ 0x2F :: 0x2F :: 0x0A :: more)
      = .ok (buffer ++ unlines lines ++ ([0x2F, 0x2F, 0x0A] : Bytes))
          (buffer ++ unlines lines ++ ([0x2F, 0x2F, 0x0A] : Bytes)).length none more s' := by
  obtain ⟨s', h⟩ := newLoop_lines lines hl more buffer sched
  exact ⟨s', by rw [nextLoop_eq_newLoop _ _ _ _ rfl, h]; rfl⟩

theorem newLoop_nil (sched : List Nat) :
    newLoop [] 0 sched [] = .ok [] 0 none [] (readLine sched []).2.2 := by
  obtain ⟨r1, r2⟩ := readLine_nil sched
  rw [show (0 : Nat) = ([] : Bytes).length from rfl, newLoop_eq, r1, r2]; rfl

theorem next_eval (s : State) (herr : s.error = none) (e0 : Bool)
    (hts : tailStartsSlashes s.buffer s.last = some e0) (b : Bytes) (l : Nat) (d : Bytes) (sc : List Nat)
    (hfill : (if e0 = true then Fill.ok s.buffer s.last none s.data s.sched
      else nextLoop s.buffer s.last s.sched s.data) = .ok b l none d sc)
    (hne : b.isEmpty = false) (rest : Bytes) (rec : TRecord α A.K)
    (hparse : parseRecord A conv zero b = .ok rest rec) :
    next A conv zero s = (.record rec, { buffer := [], last := 0, error := none, data := d, sched := sc }) := by
  unfold next
  simp only [herr, hts, hfill, hne, Bool.false_eq_true, if_false, hparse]

/-- between two calls of `next`: the buffer was handed to the parser and cleared, the records `rs`
    are still in the stream -/
def S0 (rs : List (List Item)) (s : State) : Prop :=
  s.buffer = [] ∧ s.last = 0 ∧ s.error = none ∧ s.data = render A rs

/-- as `Reader::new` leaves it: the first record buffered, `last` at its `//` line -/
def S1 (r : List Item) (rs : List (List Item)) (s : State) : Prop :=
  s.buffer = render1 A r ∧ s.last = (unlines (recLines A r)).length ∧ s.error = none ∧ s.data = render A rs

theorem render_cons (r : List Item) (rs : List (List Item)) :
    render A (r :: rs) = unlines (recLines A r) ++ 0x2F :: 0x2F :: 0x0A :: render A rs := by
  simp [render, render1_lines]

theorem render1_nonempty (r : List Item) : (render1 A r).isEmpty = false := by
  simp [render1]

theorem next_S0 (hA : A.LettersOK) (hB : Uniprobe.LettersNotBlank A) (r : List Item)
    (rs : List (List Item)) (hr : ∀ it ∈ r, WFItem A conv it) (s : State) (hs : S0 A (r :: rs) s) :
    (next A conv zero s).1 = .record (expect A conv zero r) ∧ S0 A rs (next A conv zero s).2 := by
  obtain ⟨h1, h2, h3, h4⟩ := hs
  obtain ⟨s', hloop⟩ := nextLoop_lines (recLines A r) (recLines_ok A conv hA hB r hr) (render A rs) [] s.sched
  rw [List.nil_append, ← render_cons, ← render1_lines] at hloop
  have hts : tailStartsSlashes s.buffer s.last = some false := by rw [h1, h2]; rfl
  have hfill : (if false = true then Fill.ok s.buffer s.last none s.data s.sched
      else nextLoop s.buffer s.last s.sched s.data) = .ok (render1 A r) (render1 A r).length none (render A rs) s' := by
    simp only [Bool.false_eq_true, if_false, h1, h2, h4]
    exact hloop
  rw [next_eval A conv zero s h3 false hts _ _ _ _ hfill (render1_nonempty A r) []
    (expect A conv zero r) (parseRecord_render A conv zero hA hB r hr)]
  exact ⟨rfl, rfl, rfl, rfl, rfl⟩

theorem next_S1 (hA : A.LettersOK) (hB : Uniprobe.LettersNotBlank A) (r : List Item)
    (rs : List (List Item)) (hr : ∀ it ∈ r, WFItem A conv it) (s : State) (hs : S1 A r rs s) :
    (next A conv zero s).1 = .record (expect A conv zero r) ∧ S0 A rs (next A conv zero s).2 := by
  obtain ⟨h1, h2, h3, h4⟩ := hs
  have hts : tailStartsSlashes s.buffer s.last = some true := by
    rw [h1, h2, render1_lines]
    unfold tailStartsSlashes
    rw [if_neg (by simp)]
    simp only [List.drop_left]
    rfl
  have hfill : (if true = true then Fill.ok s.buffer s.last none s.data s.sched
      else nextLoop s.buffer s.last s.sched s.data) = .ok (render1 A r) s.last none (render A rs) s.sched := by
    simp only [if_true, h1, h4]
  rw [next_eval A conv zero s h3 true hts _ _ _ _ hfill (render1_nonempty A r) []
    (expect A conv zero r) (parseRecord_render A conv zero hA hB r hr)]
  exact ⟨rfl, rfl, rfl, rfl, rfl⟩

theorem next_S0_nil (s : State) (hs : S0 A [] s) : (next A conv zero s).1 = .done := by
  obtain ⟨h1, h2, h3, h4⟩ := hs
  have hloop : nextLoop [] 0 s.sched [] = .ok [] 0 none [] (readLine s.sched []).2.2 := by
    rw [nextLoop_eq_newLoop [] 0 _ _ rfl, newLoop_nil]; rfl
  unfold next
  have hts : tailStartsSlashes ([] : Bytes) 0 = some false := rfl
  simp only [h3, h1, h2, hts, Bool.false_eq_true, if_false, h4, render, List.flatMap_nil, hloop,
    List.isEmpty_nil, if_true]

theorem render1_not_version (r : List Item) : (t 0x56 0x56).isPrefixOf (render1 A r) = false := by
  cases r with
  | nil => rfl
  | cons it rest =>
    obtain ⟨b, y, e, _, hb⟩ := renderItem_head A it (rest.flatMap (renderItem A) ++ [0x2F, 0x2F, 0x0A])
    have : render1 A (it :: rest) = b :: y := by
      rw [← e]; simp [render1]
    rw [this]
    have hbeq : ((0x56 : UInt8) == b) = false := decide_eq_false fun e' => hb e'.symm
    simp [t, List.isPrefixOf, hbeq]

/-- before a call: nothing is buffered, or (before the first call) the first record is, as
    `Reader::new` left it -/
def Ready (rs : List (List Item)) (s : State) : Prop :=
  S0 A rs s ∨ ∃ r rs', rs = r :: rs' ∧ S1 A r rs' s

theorem new_render (hA : A.LettersOK) (hB : Uniprobe.LettersNotBlank A) (sched : List Nat)
    (rs : List (List Item)) (hwf : ∀ r ∈ rs, ∀ it ∈ r, WFItem A conv it) :
    ∃ s, new sched (render A rs) = .ok s ∧ Ready A rs s := by
  cases rs with
  | nil =>
    refine ⟨State.mk [] 0 none [] (readLine sched []).2.2, ?_, Or.inl ⟨rfl, rfl, rfl, rfl⟩⟩
    unfold new
    simp only [render, List.flatMap_nil, newLoop_nil]
    rfl
  | cons r rs' =>
    obtain ⟨s', hloop⟩ := newLoop_lines (recLines A r) (recLines_ok A conv hA hB r (hwf r List.mem_cons_self))
      (render A rs') [] sched
    simp only [List.nil_append, List.length_nil] at hloop
    rw [← render_cons, ← render1_lines] at hloop
    refine ⟨State.mk (render1 A r) (unlines (recLines A r)).length none (render A rs') s', ?_,
      Or.inr ⟨r, rs', rfl, rfl, rfl, rfl, rfl⟩⟩
    unfold new
    simp only [hloop, render1_not_version, Bool.false_eq_true, if_false]

theorem roundTrip (hA : A.LettersOK) (hB : Uniprobe.LettersNotBlank A) (sched : List Nat)
    (rs : List (List Item)) (hwf : ∀ r ∈ rs, ∀ it ∈ r, WFItem A conv it) :
    ∃ s0, new sched (render A rs) = .ok s0 ∧
      outcomes (next A conv zero) (rs.length + 1) s0
        = rs.map (fun r => Outcome.record (expect A conv zero r)) ++ [Outcome.done] := by
  obtain ⟨s0, hnew, hready⟩ := new_render A conv hA hB sched rs hwf
  refine ⟨s0, hnew, outcomes_of_sim _ _ (fun rs s => (∀ r ∈ rs, ∀ it ∈ r, WFItem A conv it) ∧
    Ready A rs s) ?_ ?_ rs s0 ⟨hwf, hready⟩⟩
  · intro r rs s ⟨hwf, hs⟩
    have hr := hwf r List.mem_cons_self
    have hstep : (next A conv zero s).1 = .record (expect A conv zero r) ∧ S0 A rs (next A conv zero s).2 := by
      rcases hs with hs | ⟨r', rs', e, hs⟩
      · exact next_S0 A conv zero hA hB r rs hr s hs
      · cases e; exact next_S1 A conv zero hA hB r rs hr s hs
    exact ⟨hstep.1, fun r' h' => hwf r' (List.mem_cons_of_mem _ h'), Or.inl hstep.2⟩
  · intro s ⟨_, hs⟩
    rcases hs with hs | ⟨_, _, e, _⟩
    · exact next_S0_nil A conv zero s hs
    · cases e

end Transfac

end LMV
