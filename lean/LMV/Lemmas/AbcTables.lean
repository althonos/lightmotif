/-
  LMV.Lemmas.AbcTables — everything the readers' theorems take from the regenerated alphabet tables,
  so that a change of `abc.rs` shows here.  Three decidable predicates, decided for both alphabets:
  symbol indices are columns (`IndexOK`, for C15); letters are ASCII, read back as their own index,
  and `>` is none (`LettersOK`); letters are not blanks (`LettersNotBlank`, in the namespace of the
  UniPROBE reader, the first to need it; both for C14).  And the DNA table itself, which the raw
  JASPAR format (fixed lines A C G T) reads directly.  Core Lean only.
-/
import LMV.Model.Abc
import LMV.Model.Nom

namespace LMV

def Alphabet.IndexOK (A : Alphabet) : Prop := ∀ p ∈ A.fromTbl, p.2 < A.K

instance (A : Alphabet) : Decidable A.IndexOK := by unfold Alphabet.IndexOK; infer_instance

theorem dna_indexOK : dna.IndexOK := by decide
theorem protein_indexOK : protein.IndexOK := by decide

theorem Alphabet.fromAscii_lt {A : Alphabet} (h : A.IndexOK) {b : UInt8} {a : Nat}
    (ha : A.fromAscii b = some a) : a < A.K := by
  unfold Alphabet.fromAscii at ha
  cases hf : A.fromTbl.find? (·.1 == b) with
  | none => rw [hf] at ha; cases ha
  | some p =>
    rw [hf] at ha
    simp only [Option.map_some, Option.some.injEq] at ha
    rw [← ha]
    exact h p (List.mem_of_find?_eq_some hf)

def Alphabet.LettersOK (A : Alphabet) : Prop :=
  (∀ a, a < A.K → A.letters.getD a 0 < 0x80 ∧ A.fromAscii (A.letters.getD a 0) = some a ∧
    A.letters.getD a 0 ≠ 0x3E) ∧ A.fromAscii 0x3E = none

instance (A : Alphabet) : Decidable A.LettersOK := by unfold Alphabet.LettersOK; infer_instance

theorem dna_lettersOK : dna.LettersOK := by decide
theorem protein_lettersOK : protein.LettersOK := by decide +kernel

namespace Alphabet.LettersOK

variable {A : Alphabet} (hA : A.LettersOK) {a : Nat} (ha : a < A.K)
include hA

theorem gt_none : A.fromAscii 0x3E = none := hA.2

include ha

theorem ascii : A.letters.getD a 0 < 0x80 := (hA.1 a ha).1
theorem fromAscii : A.fromAscii (A.letters.getD a 0) = some a := (hA.1 a ha).2.1
theorem ne_gt : A.letters.getD a 0 ≠ 0x3E := (hA.1 a ha).2.2

end Alphabet.LettersOK

namespace Uniprobe

open Nom

def LettersNotBlank (A : Alphabet) : Prop := ∀ a, a < A.K → isWs1 (A.letters.getD a 0) = false

instance (A : Alphabet) : Decidable (LettersNotBlank A) := by unfold LettersNotBlank; infer_instance

theorem dna_lettersNotBlank : LettersNotBlank dna := by decide
theorem protein_lettersNotBlank : LettersNotBlank protein := by decide +kernel

end Uniprobe

/-! ### the DNA table, as the raw JASPAR format reads it

lightmotif's `Nucleotide` enum is ordered A C T G N: `G` is column 3 and `T` column 2. -/

theorem dna_K : dna.K = 5 := rfl
theorem dna_fromAscii_A : dna.fromAscii 0x41 = some 0 := by decide
theorem dna_fromAscii_C : dna.fromAscii 0x43 = some 1 := by decide
theorem dna_fromAscii_G : dna.fromAscii 0x47 = some 3 := by decide
theorem dna_fromAscii_T : dna.fromAscii 0x54 = some 2 := by decide

end LMV
