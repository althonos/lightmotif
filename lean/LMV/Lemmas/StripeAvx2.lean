/-
  LMV.Lemmas.StripeAvx2 — the block body and the block loop of the AVX2 striping kernel as
  patches, from the transpose table.
-/
import LMV.Lemmas.Stripe
import LMV.Lemmas.StripeNet

namespace LMV
namespace StripeAvx2

open Mat (Patch)

theorem cellSrc_transpose (k c : Nat) (hk : k < 32) (hc : c < 32) :
    cellSrc k c = some (k, some (c, k)) := by
  have h := network_is_transpose.2.1 (k * 32 + c) (pos_lt hk hc)
  rwa [pos_div 32 k c hc, pos_mod 32 k c hc] at h

/-- value the kernel's loads deliver for cell `(r, c)`: source offset `c*stride + r` -/
def srcVal (junk : Nat → Nat) (s : Array Nat) (stride r c : Nat) : Nat :=
  if c * stride + r < s.size then s.getD (c * stride + r) 0 else junk (c * stride + r)

/-- the block body writes the rows `i..i+32` with the TRANSPOSE of what was loaded: cell `(i+k, c)`
    receives byte `k` of register `c`, i.e. source offset `c*stride + i + k` -/
theorem block_patch (junk : Nat → Nat) (s : Array Nat) (stride i : Nat) (d : Mat Nat 32) :
    Patch d (block junk s stride i d) (fun r _ => i ≤ r ∧ r < i + 32) (srcVal junk s stride) := by
  unfold block
  rw [stores_length]
  refine Patch.range _ (fun k r _ => r = i + k) d 32 (fun k hk d' _ =>
    Patch.range _ (fun c' r c => r = i + k ∧ c = c') d' 32 (fun c hc d'' _ => ?_)
      fun r c _ hc => ⟨fun h => ⟨c, hc, h, rfl⟩, by rintro ⟨_, _, h, _⟩; exact h⟩)
    fun r c _ _ => ⟨fun h => ⟨r - i, Nat.sub_lt_left_of_lt_add h.1 h.2, (Nat.add_sub_cancel' h.1).symm⟩,
      by rintro ⟨k, hk, rfl⟩; exact ⟨Nat.le_add_right i k, Nat.add_lt_add_left hk i⟩⟩
  simp only [cellSrc_transpose k c hk hc]
  refine Patch.set d'' _ _ _ ?_
  simp only [srcVal, readPos, loadMul_eq c hc, Nat.add_assoc]

theorem srcGuardOk_eq (length stride i : Nat) :
    srcGuardOk length stride i = decide (31 * stride + i + 32 ≤ length) := by
  simp only [srcGuardOk, srcGuard_eq]

theorem blockLoop_succ (junk : Nat → Nat) (s : Array Nat) (stride n i : Nat) (d : Mat Nat 32) :
    blockLoop junk s stride (n + 1) i d =
      if i + 32 ≤ stride ∧ 31 * stride + i + 32 ≤ s.size then
        blockLoop junk s stride n (i + 32) (block junk s stride i d)
      else (i, d) := by
  simp only [blockLoop, loopStrict_eq, srcInc_eq,
    Bool.false_eq_true, if_false, srcGuardOk_eq, decide_eq_true_eq]

/-- the block loop transposes the blocks from row offset `i` to the offset `i'` where it stops, and
    touches nothing else (whatever the fuel; where it stops does not matter to what follows: the
    scalar tail loop takes over at `i'`) -/
theorem blockLoop_spec (junk : Nat → Nat) (s : Array Nat) (stride fuel i : Nat) (d : Mat Nat 32) {i' : Nat}
    {d' : Mat Nat 32} (h : blockLoop junk s stride fuel i d = (i', d')) :
    i ≤ i' ∧ Patch d d' (fun r _ => i ≤ r ∧ r < i') (srcVal junk s stride) := by
  fun_induction blockLoop junk s stride fuel i d with
  | case1 i d | case3 _ i d _ =>
    -- the loop stops at `i`: out of fuel, or the `while` condition fails
    cases h
    exact ⟨Nat.le_refl _, Patch.refl _ fun _ _ _ _ h => Nat.not_lt_of_le h.1 h.2⟩
  | case2 _ i d _ ih =>
    -- one block at `i`, then the loop from `i + 32`
    obtain ⟨h1, h2⟩ := ih h
    rw [srcInc_eq] at h1 h2
    have hrows (r : Nat) : i ≤ r ∧ r < i' ↔ (i ≤ r ∧ r < i + 32) ∨ (i + 32 ≤ r ∧ r < i') :=
      ⟨fun h => (Nat.lt_or_ge r (i + 32)).imp (And.intro h.1) fun h' => ⟨h', h.2⟩,
        fun h => h.elim (fun h => ⟨h.1, Nat.lt_of_lt_of_le h.2 h1⟩)
          fun h => ⟨Nat.le_trans (Nat.le_add_right _ _) h.1, h.2⟩⟩
    exact ⟨Nat.le_trans (Nat.le_add_right _ _) h1,
      ((block_patch junk s stride i d).trans h2).congr fun r _ _ _ => hrows r⟩

/-- the scalar tail loop of `stripe_avx2` writes the symbols of the rows `i0 ≤ r < stride`.  The loop
    is the model's, letter for letter: `stripeAvx2_inv` applies this to the loop as it stands in
    `StripeAvx2.stripe`, and the two must unify. -/
theorem tail_patch (N : Nat) (arr : Array Nat) (stride i0 length : Nat) (d : Mat Nat 32) :
    Patch d ((List.range (stride - i0)).foldl (fun d k =>
      let i := i0 + k
      (List.range 32).foldl (fun d j =>
        if j * stride + i < length then d.set i j (arr.getD (j * stride + i) N) else d) d) d)
      (fun r c => i0 ≤ r ∧ r < stride ∧ c * stride + r < length)
      (fun r c => arr.getD (c * stride + r) N) := by
  refine Patch.range _ (fun k r c => r = i0 + k ∧ c * stride + r < length) d _ (fun k _ d' _ =>
    Patch.range _ (fun j r c => r = i0 + k ∧ c = j ∧ j * stride + (i0 + k) < length) d' 32
      (fun j _ d'' _ => ?_)
      fun r c _ hc => ⟨fun h => ⟨c, hc, h.1, rfl, h.1 ▸ h.2⟩,
        by rintro ⟨_, _, rfl, rfl, h⟩; exact ⟨rfl, h⟩⟩)
    fun r c _ _ => ⟨fun h =>
        ⟨r - i0, Nat.sub_lt_sub_right h.1 h.2.1, (Nat.add_sub_cancel' h.1).symm, h.2.2⟩,
      by rintro ⟨k, hk, rfl, h⟩; exact ⟨Nat.le_add_right i0 k, Nat.add_lt_of_lt_sub' hk, h⟩⟩
  by_cases h : j * stride + (i0 + k) < length
  · rw [if_pos h]
    exact Patch.congr (fun _ _ _ _ => ⟨fun h' => ⟨h'.1, h'.2.1⟩, fun h' => ⟨h'.1, h'.2, h⟩⟩)
      (Patch.set d'' (i0 + k) j _ rfl)
  · rw [if_neg h]
    exact Patch.refl d'' fun _ _ _ _ h' => h h'.2.2

end StripeAvx2
end LMV
