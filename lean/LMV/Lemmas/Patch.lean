/-
  LMV.Lemmas.Patch — write loops into a `Mat`, once.

  Every loop of the models that stores into a matrix has the same closed form: the row count is
  kept, the cells of some region hold a value that is a function of the cell, every other cell is
  untouched.  `Patch d d' S v` says exactly that; it composes along a loop (`Patch.range`), so the
  closed form of a loop is read off its body.
-/
import LMV.Model.Mat
import LMV.Lemmas.Sums

namespace LMV

namespace Mat

variable {α : Type} {C : Nat}

theorem rows_foldl {ι : Type} (l : List ι) (F : Mat α C → ι → Mat α C)
    (h : ∀ d i, (F d i).rows = d.rows) (d : Mat α C) : (l.foldl F d).rows = d.rows :=
  List.foldlRecOn l F (motive := fun d' => d'.rows = d.rows) rfl fun d' hd' i _ => (h d' i).trans hd'

/-- `d'` is `d` with the cells of the region `S` overwritten by `v`.  The cells are read with
    `getD … e` for EVERY default `e`: the scoring models read with `getD … zero` over a carrier that
    need not be inhabited, the striping models with `get`, which is `getD … default` by `rfl`; a
    consumer holding `get` instantiates `e := default` (or `_`). -/
structure Patch (d d' : Mat α C) (S : Nat → Nat → Prop) (v : Nat → Nat → α) : Prop where
  rows : d'.rows = d.rows
  hit : ∀ r c, r < d.rows → c < C → S r c → ∀ e, d'.getD r c e = v r c
  miss : ∀ r c, ¬ S r c → ∀ e, d'.getD r c e = d.getD r c e

namespace Patch

variable {d d' d'' : Mat α C} {S T : Nat → Nat → Prop} {v : Nat → Nat → α}

theorem refl (d : Mat α C) (hS : ∀ r c, r < d.rows → c < C → ¬ S r c) : Patch d d S v :=
  ⟨rfl, fun r c hr hc h => (hS r c hr hc h).elim, fun _ _ _ _ => rfl⟩

theorem set (d : Mat α C) (i j : Nat) (x : α) (hv : v i j = x) :
    Patch d (d.set i j x) (fun r c => r = i ∧ c = j) v := by
  refine ⟨rows_set .., fun r c hr hc h e => ?_, fun r c h e => ?_⟩
  · rw [getD_set, if_pos ⟨h.1, h.2, h.1 ▸ hr, h.2 ▸ hc⟩, h.1, h.2, hv]
  · rw [getD_set, if_neg fun h' => h ⟨h'.1, h'.2.1⟩]

theorem trans (h₁ : Patch d d' S v) (h₂ : Patch d' d'' T v) :
    Patch d d'' (fun r c => S r c ∨ T r c) v := by
  refine ⟨h₂.rows.trans h₁.rows, fun r c hr hc h e => ?_, fun r c h e => ?_⟩
  · by_cases hT : T r c
    · exact h₂.hit r c (h₁.rows ▸ hr) hc hT e
    · rw [h₂.miss r c hT, h₁.hit r c hr hc (h.resolve_right hT)]
  · rw [h₂.miss r c (fun hT => h (.inr hT)), h₁.miss r c (fun hS => h (.inl hS))]

/-- cells that do not exist read as the default on both sides -/
theorem of_inbounds (hrows : d'.rows = d.rows)
    (hit : ∀ r c, r < d.rows → c < C → S r c → ∀ e, d'.getD r c e = v r c)
    (miss : ∀ r c, r < d.rows → c < C → ¬ S r c → ∀ e, d'.getD r c e = d.getD r c e) :
    Patch d d' S v := by
  refine ⟨hrows, hit, fun r c hs e => ?_⟩
  by_cases hr : r < d.rows
  · by_cases hc : c < C
    · exact miss r c hr hc hs e
    · rw [getD_of_cols_le _ _ _ (Nat.le_of_not_lt hc), getD_of_cols_le _ _ _ (Nat.le_of_not_lt hc)]
  · rw [getD_of_rows_le _ _ _ (hrows ▸ Nat.le_of_not_lt hr), getD_of_rows_le _ _ _ (Nat.le_of_not_lt hr)]

theorem congr {S' : Nat → Nat → Prop} (hS : ∀ r c, r < d.rows → c < C → (S' r c ↔ S r c))
    (h : Patch d d' S v) : Patch d d' S' v :=
  of_inbounds h.rows (fun r c hr hc hs => h.hit r c hr hc ((hS r c hr hc).1 hs))
    fun r c hr hc hs => h.miss r c fun hs' => hs ((hS r c hr hc).2 hs')

theorem vals {v' : Nat → Nat → α} (hv : ∀ r c, r < d.rows → c < C → S r c → v' r c = v r c)
    (h : Patch d d' S v) : Patch d d' S v' :=
  ⟨h.rows, fun r c hr hc hs e => (h.hit r c hr hc hs e).trans (hv r c hr hc hs).symm, h.miss⟩

/-- **a loop of patches is a patch**: if iteration `k` patches the region `S k` (it may assume what
    the earlier iterations did: needed when the body reads the matrix it writes), the loop patches
    the union `T` of the regions -/
theorem range (F : Nat → Mat α C → Mat α C) (S : Nat → Nat → Nat → Prop) (d : Mat α C) (n : Nat)
    (step : ∀ k, k < n → ∀ d', Patch d d' (fun r c => ∃ j, j < k ∧ S j r c) v →
      Patch d' (F k d') (S k) v)
    (hT : ∀ r c, r < d.rows → c < C → (T r c ↔ ∃ k, k < n ∧ S k r c)) :
    Patch d ((List.range n).foldl (fun d k => F k d) d) T v := by
  refine congr hT ?_
  clear hT
  induction n with
  | zero => exact refl d (by rintro _ _ _ _ ⟨_, h, _⟩; exact Nat.not_lt_zero _ h)
  | succ n ih =>
    rw [foldl_range_succ]
    have ih := ih fun k hk => step k (Nat.lt_succ_of_lt hk)
    refine (ih.trans (step n (Nat.lt_succ_self n) _ ih)).congr fun r c _ _ => ?_
    constructor
    · rintro ⟨k, hk, h⟩
      by_cases hkn : k = n
      · exact .inr (hkn ▸ h)
      · exact .inl ⟨k, Nat.lt_of_le_of_ne (Nat.le_of_lt_succ hk) hkn, h⟩
    · rintro (⟨k, hk, h⟩ | h)
      · exact ⟨k, Nat.lt_succ_of_lt hk, h⟩
      · exact ⟨n, Nat.lt_succ_self n, h⟩

theorem rowLoop (F : Nat → Mat α C → Mat α C) (d : Mat α C) (n : Nat)
    (step : ∀ k, k < n → ∀ d', Patch d' (F k d') (fun r _ => r = k) v) :
    Patch d ((List.range n).foldl (fun d k => F k d) d) (fun r _ => r < n) v :=
  range F (fun k r _ => r = k) d n (fun k hk d' _ => step k hk d')
    fun r _ _ _ => ⟨fun h => ⟨r, h, rfl⟩, by rintro ⟨_, hk, rfl⟩; exact hk⟩

theorem row (d : Mat α C) (k : Nat) (g : Nat → α) (hv : ∀ c, c < C → v k c = g c) :
    Patch d ((List.range C).foldl (fun d c => d.set k c (g c)) d) (fun r _ => r = k) v :=
  range _ (fun c' r c => r = k ∧ c = c') d C (fun c hc d' _ => set d' k c _ (hv c hc))
    fun _ c _ hc => ⟨fun h => ⟨c, hc, h, rfl⟩, by rintro ⟨_, _, h, _⟩; exact h⟩

/-- over any list of indices; the body must not read what the loop wrote (`range` allows that) -/
theorem foldl {ι : Type} (l : List ι) (F : ι → Mat α C → Mat α C) (S : ι → Nat → Nat → Prop)
    (d : Mat α C) (step : ∀ i, i ∈ l → ∀ d', Patch d' (F i d') (S i) v)
    (hT : ∀ r c, r < d.rows → c < C → (T r c ↔ ∃ i, i ∈ l ∧ S i r c)) :
    Patch d (l.foldl (fun d i => F i d) d) T v := by
  refine congr hT ?_
  clear hT
  induction l generalizing d with
  | nil => exact refl d (by rintro _ _ _ _ ⟨_, h, _⟩; cases h)
  | cons i l ih =>
    exact ((step i List.mem_cons_self d).trans
      (ih (F i d) fun j hj => step j (List.mem_cons_of_mem _ hj))).congr
      fun r c _ _ => by simp

/-- `e` is any element of the carrier: it only makes `α` inhabited for `Mat.ext` -/
theorem unique (e : α) {d₁ d₂ : Mat α C} (h₁ : Patch d d₁ S v) (h₂ : Patch d d₂ S v) : d₁ = d₂ := by
  letI : Inhabited α := ⟨e⟩
  refine Mat.ext (h₁.rows.trans h₂.rows.symm) fun r c hr hc => ?_
  rw [h₁.rows] at hr
  show d₁.getD r c e = d₂.getD r c e
  by_cases hs : S r c
  · rw [h₁.hit r c hr hc hs, h₂.hit r c hr hc hs]
  · rw [h₁.miss r c hs, h₂.miss r c hs]

end Patch
end Mat
end LMV
