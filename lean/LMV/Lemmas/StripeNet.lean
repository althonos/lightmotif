/-
  LMV.Lemmas.StripeNet — the AVX2 32×32 unpack network regenerated from avx2.rs IS the transpose.

  `network_is_transpose` is a kernel evaluation over the complete finite table (32 stores × 32
  columns) of the index map of the extracted network.  The model (`StripeAvx2.block`) reads the
  loaded bytes through that index map; `run_eq_readPos` is why it may.
-/
import LMV.Model.StripeAvx2

namespace LMV
namespace StripeAvx2

/-- executing the steps on data = reading the initial register file through the index map.
    No theorem chains through this: it justifies modelling a straight-line sequence of validated
    intrinsics by its index map (`srcOfAll`) instead of by running it. -/
theorem run_eq_readPos {α : Type} (zero : α) (ss : List Step) (r : Nat → Nat → α) (reg byte : Nat) :
    run zero ss r reg byte = readPos zero r (srcOfAll ss (some (reg, byte))) := by
  induction ss generalizing r with
  | nil => rfl
  | cons s ss ih =>
    simp only [run, srcOfAll]
    rw [ih]
    -- one step: reading the stepped file at `p` is reading the old file at `s.src p`
    generalize srcOfAll ss (some (reg, byte)) = p
    cases p with
    | none => rfl
    | some q =>
      obtain ⟨rg, b⟩ := q
      simp only [readPos, Step.run, Step.src, Isa.apply]
      by_cases h1 : rg = s.ra
      · rw [if_pos h1, if_pos h1]
        rcases s.opA.src b with ⟨side, k⟩
        cases side <;> rfl
      · rw [if_neg h1, if_neg h1]
        by_cases h2 : rg = s.rb
        · rw [if_pos h2, if_pos h2]
          rcases s.opB.src b with ⟨side, k⟩
          cases side <;> rfl
        · rw [if_neg h2, if_neg h2]

/-- the complete table: store number `k` writes row `i + k`, and its column `c` receives byte `k`
    of load register `c`.  The 32 × 32 cells are quantified as ONE range `p < 1024` (unflattened
    again by `cellSrc_transpose`, in Lemmas/StripeAvx2.lean): the kernel evaluates one bounded
    quantifier cheaper than two nested ones.  `outInc = srcInc` is what lets the model's `blockLoop`
    advance ONE counter for the source offset and the destination row. -/
def TransposeTable : Prop :=
  Gen.Avx2Stripe.stores.length = 32 ∧
  (∀ p, p < 1024 → cellSrc (p / 32) (p % 32) = some (p / 32, some (p % 32, p / 32))) ∧
  (∀ j, j < 32 → loadMul j = some j) ∧
  Gen.Avx2Stripe.loopStrict = false ∧ Gen.Avx2Stripe.srcInc = 32 ∧ Gen.Avx2Stripe.outInc = 32 ∧
  Gen.Avx2Stripe.srcGuard = some 31

instance : Decidable TransposeTable := by unfold TransposeTable; infer_instance

theorem network_is_transpose : TransposeTable := by decide +kernel

theorem stores_length : Gen.Avx2Stripe.stores.length = 32 := by
  obtain ⟨h, -, -, -, -, -, -⟩ := network_is_transpose; exact h

theorem loadMul_eq (j : Nat) (hj : j < 32) : loadMul j = some j := by
  obtain ⟨-, -, h, -, -, -, -⟩ := network_is_transpose; exact h j hj

theorem loopStrict_eq : Gen.Avx2Stripe.loopStrict = false := by
  obtain ⟨-, -, -, h, -, -, -⟩ := network_is_transpose; exact h

theorem srcInc_eq : Gen.Avx2Stripe.srcInc = 32 := by
  obtain ⟨-, -, -, -, h, -, -⟩ := network_is_transpose; exact h

theorem srcGuard_eq : Gen.Avx2Stripe.srcGuard = some 31 := by
  obtain ⟨-, -, -, -, -, -, h⟩ := network_is_transpose; exact h

end StripeAvx2
end LMV
