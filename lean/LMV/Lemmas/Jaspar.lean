/-
  LMV.Lemmas.Jaspar — the two JASPAR record parsers eat their input (`Eats`) and never reach an index
  panic (raw first, the reader, then 2016).  The shared `Reader` is a pure function `step` of the
  unparsed tail of its buffer and the data still in the stream (`next_eq_step`: capacity policy,
  compaction and chunking do not matter); from that: it keeps `start ≤ buffer.len()`, never panics,
  and a successful `next` strictly decreases `|stream| + |buffer| − start`.  Core Lean only.
-/
import LMV.Model.Jaspar16
import LMV.Lemmas.Build
import LMV.Lemmas.Stream

namespace LMV

open Io Nom

namespace Jaspar

/-! ### the raw record parser -/

theorem eats_counts : Eats 0 counts := eats_space1.opt.preceded (eats_space1.sepList0 (eats_uint _))

theorem eats_matrixColumn : Eats 1 matrixColumn := eats_counts.terminated eats_lineEnding

theorem strict_matrixColumn : Strict matrixColumn := eats_matrixColumn.strict

theorem eats_header : Eats 2 header :=
  (((eats_tag [0x3E]).preceded (eats_takeWhile _)).pair ((eats_takeUntilByte _).pair eats_lineEnding)).pmap _

theorem eats_matrix : Eats 4 matrix :=
  (eats_matrixColumn.pair (eats_matrixColumn.pair (eats_matrixColumn.pair eats_matrixColumn))).built _

theorem eats_record : Eats 1 record := ((eats_header.pair eats_matrix).pmap _).mono (by decide)

theorem buildLoop_noPanic {K : Nat} (l : List (List Nat × Nat)) (hl : ∀ p ∈ l, p.2 < K)
    (m : Mat Nat K) (site : String) : buildLoop m l ≠ .panic site := by
  fun_induction buildLoop m l
  case case3 ih => exact ih fun p hp => hl p (List.mem_cons_of_mem _ hp)
  -- no panic of `matrix[i][s]`: the column is as long as the matrix (`hlen`)
  case case4 hlen hf =>
    obtain ⟨m', h1, _⟩ := fillColumn_zero (hl _ List.mem_cons_self) (Decidable.of_not_not hlen)
    rw [h1] at hf
    cases hf
  all_goals exact nofun

/-- A C G T in the order of the file; the columns are those of lightmotif's enum A C T G N -/
theorem symbols_eq : symbols = [0, 1, 3, 2] := by
  rfl

theorem buildMatrix_noPanic (a c g t : List Nat) (site : String) :
    buildMatrix [a, c, g, t] ≠ .panic site := by
  apply buildLoop_noPanic
  rw [symbols_eq]
  intro p hp
  simp only [List.zip_cons_cons, List.zip_nil_right, List.mem_cons, List.not_mem_nil, or_false] at hp
  rcases hp with h | h | h | h <;> (rw [h]; simp [dna_K])

theorem matrix_noPanic {i r : Bytes} {e : Except String (Mat Nat dna.K)}
    (h : matrix i = .ok r e) : ∃ m, e = .ok m :=
  built_noPanic (fun _ _ v _ site => buildMatrix_noPanic v.1 v.2.1 v.2.2.1 v.2.2.2 site) h

theorem record_noPanic : NoIndexPanic record := fun i r e h => by
  obtain ⟨v, hv, he⟩ := pmap_ok h
  obtain ⟨r1, _, h2⟩ := pair_ok hv
  obtain ⟨m, hm⟩ := matrix_noPanic h2
  rw [he, hm]
  exact ⟨_, rfl⟩

/-! ### the reader -/

def Inv (s : State) : Prop := s.start ≤ s.buffer.length

/-- the unparsed tail of the buffer, `&buffer[start..]` -/
def State.pending (s : State) : Bytes := s.buffer.drop s.start

def measure (s : State) : Nat := s.data.length + (s.buffer.length - s.start)

theorem measure_eq (s : State) : measure s = s.data.length + s.pending.length := by
  simp [measure, State.pending]

theorem new_inv (grow : Nat → Nat → Nat → Nat) (sched : List Nat) (data : Bytes) :
    Inv (new grow sched data) := by
  simp [Inv, new]

variable {ρ : Type}

/-- `next` as it acts on the unparsed tail `p` of the buffer and the undelivered data `d`: the
    outcome and the new tail.  Capacity, compaction and chunking do not occur; the data left is always
    `after 0x3E d`. -/
def step (parse : Parser (Except String ρ)) (p d : Bytes) : Outcome ρ × Bytes :=
  let bytes := p ++ through 0x3E d
  if !validUtf8 bytes then (.error .io, bytes) else
  if (through 0x3E d).length = 0 ∧ isBlank bytes then (.done, bytes) else
  match parse bytes with
  | .ok _ (.error site) => (.panic site, bytes)
  | .ok rest (.ok rec) =>
    if bytes.length < rest.length then (.panic "mod.rs: text.len() - rest.len()", bytes)
    else (.record rec, bytes.drop (bytes.length - rest.length))
  | e => (ofNomErr e, bytes)

theorem next_eq_step (parse : Parser (Except String ρ)) (grow : Nat → Nat → Nat → Nat) (s : State)
    (hinv : Inv s) :
    (next parse grow s).1 = (step parse s.pending s.data).1 ∧ Inv (next parse grow s).2 ∧
    (next parse grow s).2.pending = (step parse s.pending s.data).2 ∧
    (next parse grow s).2.data = after 0x3E s.data := by
  -- both sides are the same chain of `if`s over the same text (`hdrop`), with the same outcome and
  -- related states at every exit: `R` a variable, so that each side is unfolded once, and the `let`s
  -- of `next` kept as local definitions.  Only the record exit moves `start` (`hd2`).
  suffices h : ∀ R : Outcome ρ × State → Outcome ρ × Bytes → Prop,
      (∀ o t b, Inv t → t.pending = b → t.data = after 0x3E s.data → R (o, t) (o, b)) →
      R (next parse grow s) (step parse s.pending s.data) from
    h (fun x y => x.1 = y.1 ∧ Inv x.2 ∧ x.2.pending = y.2 ∧ x.2.data = after 0x3E s.data)
      fun _ _ _ h1 h2 h3 => ⟨rfl, h1, h2, h3⟩
  intro R hR
  unfold next step
  extract_lets r n buffer cap s1 text bytes
  have hstart : s.start ≤ buffer.length := List.length_append ▸ Nat.le_add_right_of_le hinv
  have hr : r.1 = through 0x3E s.data := readUntil_fst ..
  have hdrop : text = bytes := (List.drop_append_of_le_length hinv).trans (congrArg _ hr)
  have hn : n = (through 0x3E s.data).length := congrArg _ hr
  have hlen : buffer.length = s.start + bytes.length := by
    rw [← hdrop, List.length_drop, Nat.add_sub_cancel' hstart]
  have base : ∀ o, R (o, s1) (o, bytes) := fun o => hR o s1 bytes hstart hdrop (readUntil_snd ..)
  rw [if_neg (Nat.not_lt.mpr hstart), hdrop, hn]
  by_cases hv : (!validUtf8 bytes) = true
  · rw [if_pos hv, if_pos hv]; exact base _
  by_cases hb : (through 0x3E s.data).length = 0 ∧ isBlank bytes = true
  · rw [if_neg hv, if_neg hv, if_pos hb, if_pos hb]; exact base _
  rw [if_neg hv, if_neg hv, if_neg hb, if_neg hb]
  cases parse bytes with
  | ok rest e =>
    cases e with
    | error site => exact base _
    | ok rec =>
      simp only
      by_cases hl : bytes.length < rest.length
      · rw [if_pos hl, if_pos hl]; exact base _
      rw [if_neg hl, if_neg hl]
      have hle : s.start + (bytes.length - rest.length) ≤ buffer.length :=
        le_of_le_of_eq (Nat.add_le_add_left (Nat.sub_le ..) _) hlen.symm
      have hd2 : buffer.drop (s.start + (bytes.length - rest.length))
          = bytes.drop (bytes.length - rest.length) :=
        List.drop_drop.symm.trans (congrArg _ hdrop)
      rw [if_neg (Nat.not_lt.mpr hle)]
      split
      · exact hR _ _ _ (Nat.zero_le _) hd2 (readUntil_snd ..)
      · exact hR _ _ _ hle hd2 (readUntil_snd ..)
  | _ => exact base _

theorem step_ok {parse : Parser (Except String ρ)} (hp : Eats 1 parse)
    (hnp : NoIndexPanic parse) (p d : Bytes) :
    CallOK (fun _ => True) List.length (p ++ through 0x3E d) (step parse p d) := by
  unfold step
  generalize p ++ through 0x3E d = bytes
  by_cases hv : (!validUtf8 bytes) = true
  · rw [if_pos hv]; exact .quiet rfl rfl trivial
  by_cases hb : (through 0x3E d).length = 0 ∧ isBlank bytes = true
  · rw [if_neg hv, if_pos hb]; exact .quiet rfl rfl trivial
  rw [if_neg hv, if_neg hb]
  cases hq : parse bytes with
  | ok rest e =>
    obtain ⟨v, rfl⟩ := hnp _ _ _ hq
    have hlt : rest.length < bytes.length := hp.le hq
    simp only
    rw [if_neg (Nat.lt_asymm hlt)]
    exact ⟨fun _ h => (nomatch h), trivial, fun _ _ => by
      rw [List.length_drop]; exact Nat.sub_lt (Nat.zero_lt_of_lt hlt) (Nat.sub_pos_of_lt hlt)⟩
  | err => exact .quiet rfl rfl trivial
  | fail => exact .quiet rfl rfl trivial
  | incomplete => exact absurd hq (hp.noInc bytes)

theorem step_success {parse : Parser (Except String ρ)} {p d consumed rest : Bytes} {rec : ρ}
    (hbytes : p ++ through 0x3E d = consumed ++ rest) (hutf : validUtf8 (consumed ++ rest) = true)
    (hne : through 0x3E d ≠ []) (hparse : parse (consumed ++ rest) = .ok rest (.ok rec)) :
    step parse p d = (.record rec, rest) := by
  unfold step
  simp only [hbytes, hutf, hparse]
  rw [if_neg (by simp), if_neg (fun h => hne (List.length_eq_zero_iff.mp h.1)), if_neg (by simp)]
  simp

theorem step_done (parse : Parser (Except String ρ)) : (step parse [] []).1 = .done := rfl

/-- for both flavours; `Eats 1`: a record parser consumes at least the `>` -/
theorem next_ok (parse : Parser (Except String ρ)) (hp : Eats 1 parse)
    (hnp : NoIndexPanic parse)
    (grow : Nat → Nat → Nat → Nat) (s : State) (hinv : Inv s) :
    CallOK Inv measure s (next parse grow s) := by
  obtain ⟨h1, h2, h3, h4⟩ := next_eq_step parse grow s hinv
  have g := step_ok hp hnp s.pending s.data
  refine ⟨fun site => h1 ▸ g.noPanic site, h2, fun r h => ?_⟩
  have := g.lower r (h1 ▸ h)
  rw [List.length_append] at this
  rw [measure_eq, measure_eq, h3, h4, ← length_through_add_after 0x3E s.data]
  omega

theorem new_measure (grow : Nat → Nat → Nat → Nat) (sched : List Nat) (bytes : Bytes) :
    measure (new grow sched bytes) ≤ bytes.length := by
  simp only [measure, new, readUntil_fst, readUntil_snd]
  have h : (after 0x3E bytes).length + (through 0x3E bytes).length = bytes.length :=
    (Nat.add_comm ..).trans (length_through_add_after 0x3E bytes)
  exact Nat.le_trans (Nat.add_le_add_left (Nat.sub_le ..) _) (Nat.le_of_eq h)

end Jaspar

/-! ### the JASPAR 2016 record parser -/

namespace Jaspar16

theorem eats_counts : Eats 2 counts :=
  ((eats_space0.delimited (eats_tag [0x5B]) eats_space0).delimited (eats_space1.sepList0 (eats_uint _))
    (eats_space0.delimited (eats_tag [0x5D]) eats_space0))

theorem eats_matrixColumn (A : Alphabet) : Eats 5 (matrixColumn A) :=
  ((eats_symbol A).separatedPair eats_space1 eats_counts).terminated eats_lineEnding

theorem strict_matrixColumn (A : Alphabet) : Strict (matrixColumn A) := (eats_matrixColumn A).strict

theorem eats_matrix (A : Alphabet) : Eats 5 (matrix A) := (eats_matrixColumn A).many1.built _

theorem eats_record (A : Alphabet) : Eats 1 (record A) :=
  ((Jaspar.eats_header.pair (eats_matrix A)).pmap _).mono (by decide)

theorem buildMatrix_noPanic {A : Alphabet} (input : List (Nat × List Nat))
    (hne : input ≠ []) (hl : ∀ p ∈ input, p.1 < A.K) (site : String) :
    buildMatrix A input ≠ .panic site := by
  cases input with
  | nil => exact absurd rfl hne
  | cons p rest => exact buildSymLoop_noPanic _ hl _ _ _

theorem matrix_noPanic {A : Alphabet} (hA : A.IndexOK) {i r : Bytes}
    {e : Except String (Mat Nat A.K)} (h : matrix A i = .ok r e) : ∃ m, e = .ok m :=
  built_noPanic (fun _ _ v hv site =>
    have hv := many1_mem (fun p => p.1 < A.K) (fun _ _ _ hp => symbolLine_lt hA hp) hv
    buildMatrix_noPanic v hv.2 hv.1 site) h

theorem record_noPanic {A : Alphabet} (hA : A.IndexOK) : NoIndexPanic (record A) := fun i r e h => by
  obtain ⟨v, hv, he⟩ := pmap_ok h
  obtain ⟨r1, _, h2⟩ := pair_ok hv
  obtain ⟨m, hm⟩ := matrix_noPanic hA h2
  rw [he, hm]
  exact ⟨_, rfl⟩

end Jaspar16
end LMV
