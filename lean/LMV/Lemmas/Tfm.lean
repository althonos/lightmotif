/-
  LMV.Lemmas.Tfm — shared lemmas of C12 / C13 about the exact (`Rat`) instance of LMV.Model.Tfm:
  the specification (the exact law of a word's score as a functional, `expect`, and the tails C12 /
  C13 are stated in); maps as association lists; (D) `distribution_spec`, what `distribution min max`
  computes; (R) `rounding`, integer score vs rescaled real score of every word.
-/
import Mathlib.Algebra.BigOperators.Ring.List
import Mathlib.Algebra.Order.BigOperators.Group.List
import Mathlib.Data.Rat.Floor
import LMV.Model.Tfm

namespace LMV.Tfm

/-! ### the `Rat` instance, unfolded

(`Num.ceil` is unfolded by `C13.ceil_rat`, in Props/C13 next to its users.) -/

@[simp] theorem add_rat (a b : Rat) : Num.add a b = a + b := rfl
@[simp] theorem sub_rat (a b : Rat) : Num.sub a b = a - b := rfl
@[simp] theorem mul_rat (a b : Rat) : Num.mul a b = a * b := rfl
@[simp] theorem div_rat (a b : Rat) : Num.div a b = a / b := rfl
@[simp] theorem lt_rat (a b : Rat) : Num.lt a b = decide (a < b) := rfl
@[simp] theorem le_rat (a b : Rat) : Num.le a b = decide (a ≤ b) := rfl
@[simp] theorem beq_rat (a b : Rat) : Num.beq a b = decide (a = b) := rfl
@[simp] theorem ofInt_rat (i : Int) : (Num.ofInt i : Rat) = (i : Rat) := rfl
@[simp] theorem floor_rat (a : Rat) : Num.floor a = ⌊a⌋ := rfl
@[simp] theorem zero_rat : (Num.zero : Rat) = 0 := rfl
@[simp] theorem one_rat : (Num.one : Rat) = 1 := rfl
@[simp] theorem half_rat : (Num.half : Rat) = 1 / 2 := rfl
@[simp] theorem tenth_rat : (Num.tenth : Rat) = 1 / 10 := rfl
@[simp] theorem ten_rat : (Num.ten : Rat) = 10 := rfl

/-! ### specification: the exact distribution of a word score

What C12 and C13 are stated in: `expect` is the law as a functional on test functions; the tails and
masses below are its values at indicator functions. -/

/-- `Σ_w P(w)·f(score w)` over all words `w` (one column per row), `P(w) = Π bg[w_i]`,
    `score w = Σ rows[i][w_i]`; by recursion over the rows.  `expect_eq_words` expands it.
    The score type `σ` is `Rat` (the exact score), `Int` (the integer score) or `Rat × Int` (both
    scores of the same word: the coupling `pairRows` behind (R)).  A row and the background are
    paired by position (`zip`): surplus entries of either are dropped, as in the model. -/
def expect {σ : Type} [Add σ] [Zero σ] (bg : List Rat) : List (List σ) → (σ → Rat) → Rat
  | [], f => f 0
  | r :: rs, f => ((r.zip bg).map fun xb => xb.2 * expect bg rs (fun s => f (xb.1 + s))).sum

/-- all words over the rows: the chosen entry of each row with its background frequency -/
def words {σ : Type} (bg : List Rat) : List (List σ) → List (List (σ × Rat))
  | [] => [[]]
  | r :: rs => (r.zip bg).flatMap fun xb => (words bg rs).map (xb :: ·)

def wordScore {σ : Type} [Add σ] [Zero σ] : List (σ × Rat) → σ
  | [] => 0
  | xb :: t => xb.1 + wordScore t

def wordProb {σ : Type} (w : List (σ × Rat)) : Rat := (w.map (·.2)).prod

theorem expect_eq_words {σ : Type} [Add σ] [Zero σ] (bg : List Rat) (rows : List (List σ))
    (f : σ → Rat) :
    expect bg rows f = ((words bg rows).map fun w => wordProb w * f (wordScore w)).sum := by
  induction rows generalizing f with
  | nil => simp [expect, words, wordProb, wordScore]
  | cons r rs ih =>
    simp only [expect, words]
    generalize r.zip bg = z
    induction z with
    | nil => simp
    | cons xb t iht =>
      simp only [List.map_cons, List.sum_cons, List.flatMap_cons, List.map_append, List.sum_append]
      rw [iht, ih]
      congr 1
      simp only [List.map_map]
      rw [← List.sum_map_mul_left]
      refine congrArg List.sum (List.map_congr_left fun w _ => ?_)
      simp only [Function.comp, wordProb, wordScore, List.map_cons, List.prod_cons, mul_assoc]

/-- `P(D ≥ k)` for the integer score `D` -/
def tailD (bg : List Rat) (im : List (List Int)) (k : Int) : Rat :=
  expect bg im (fun j => if k ≤ j then 1 else 0)

end LMV.Tfm

namespace LMV.C12
open Tfm

/-- `P(S ≥ x)`: the exact tail of the score of a background-distributed word -/
def tail (bg : List Rat) (rows : List (List Rat)) (x : Rat) : Rat :=
  expect bg rows (fun s => if x ≤ s then 1 else 0)

/-- total mass of all words (1 for a background that sums to 1) -/
def totalMass (bg : List Rat) (rows : List (List Rat)) : Rat := expect bg rows (fun _ => 1)

/-- `tail` is the sum, over the explicit list of all words, of the probabilities of the words
    scoring at least `x` -/
theorem tail_eq_words (bg : List Rat) (rows : List (List Rat)) (x : Rat) :
    tail bg rows x =
      ((words bg rows).map fun w => wordProb w * (if x ≤ wordScore w then 1 else 0)).sum :=
  expect_eq_words bg rows _

end LMV.C12

namespace LMV.C13
open Tfm

/-- `P(S = u)` -/
def pointMass (bg : List Rat) (rows : List (List Rat)) (u : Rat) : Rat :=
  expect bg rows (fun s => if s = u then 1 else 0)

end LMV.C13

namespace LMV.Tfm

/-! ### weighted sums over association lists -/

/-- `Σ v·G(k)` over the entries `(k, v)` -/
def wsum (l : List (Int × Rat)) (G : Int → Rat) : Rat := (l.map fun e => e.2 * G e.1).sum

@[simp] theorem wsum_nil (G : Int → Rat) : wsum [] G = 0 := rfl

@[simp] theorem wsum_cons (e : Int × Rat) (l : List (Int × Rat)) (G : Int → Rat) :
    wsum (e :: l) G = e.2 * G e.1 + wsum l G := by
  simp [wsum]

theorem wsum_append (l₁ l₂ : List (Int × Rat)) (G : Int → Rat) :
    wsum (l₁ ++ l₂) G = wsum l₁ G + wsum l₂ G := by
  simp [wsum]

theorem wsum_perm {l₁ l₂ : List (Int × Rat)} (h : l₁.Perm l₂) (G : Int → Rat) :
    wsum l₁ G = wsum l₂ G := by
  exact (h.map _).sum_eq

theorem wsum_flatMap {β : Type} (l : List β) (f : β → List (Int × Rat)) (G : Int → Rat) :
    wsum (l.flatMap f) G = (l.map fun a => wsum (f a) G).sum := by
  unfold wsum
  rw [List.flatMap_def, List.map_flatten, List.sum_flatten, List.map_map, List.map_map]
  rfl

theorem wsum_filterMap {β : Type} (l : List β) (g : β → Option (Int × Rat)) (G : Int → Rat) :
    wsum (l.filterMap g) G =
      (l.map fun a => match g a with | some e => e.2 * G e.1 | none => 0).sum := by
  induction l with
  | nil => rfl
  | cons a t ih =>
    rw [List.map_cons, List.sum_cons, ← ih]
    cases h : g a with
    | none => rw [List.filterMap_cons_none h, zero_add]
    | some e => rw [List.filterMap_cons_some h, wsum_cons]

theorem wsum_congr {l : List (Int × Rat)} {G H : Int → Rat} (h : ∀ e ∈ l, G e.1 = H e.1) :
    wsum l G = wsum l H :=
  congrArg List.sum (List.map_congr_left fun e he => by rw [h e he])

theorem wsum_mono {l : List (Int × Rat)} {G H : Int → Rat} (hv : ∀ e ∈ l, 0 ≤ e.2)
    (h : ∀ e ∈ l, G e.1 ≤ H e.1) : wsum l G ≤ wsum l H :=
  List.sum_le_sum fun e he => mul_le_mul_of_nonneg_left (h e he) (hv e he)

theorem wsum_nonneg {l : List (Int × Rat)} {G : Int → Rat} (hv : ∀ e ∈ l, 0 ≤ e.2)
    (h : ∀ e ∈ l, 0 ≤ G e.1) : 0 ≤ wsum l G :=
  List.sum_nonneg fun x hx => by
    obtain ⟨e, he, rfl⟩ := List.mem_map.1 hx
    exact mul_nonneg (hv e he) (h e he)

/-! ### `normalize`: it keeps every weighted sum, the key set and non-negativity, and sorts strictly -/

theorem wsum_combineAux (k : Int) (v : Rat) (t : List (Int × Rat)) (G : Int → Rat) :
    wsum (combineAux k v t) G = v * G k + wsum t G := by
  fun_induction combineAux k v t with
  | case1 => rw [wsum_cons, wsum_nil]
  | case2 _ _ _ _ ih => rw [ih, wsum_cons, add_rat, add_mul, add_assoc]  -- the same key: the values add up
  | case3 _ _ _ _ _ _ ih => rw [wsum_cons, ih, wsum_cons]  -- another key: `(k, v)` is emitted

theorem wsum_combine (l : List (Int × Rat)) (G : Int → Rat) : wsum (combine l) G = wsum l G := by
  fun_cases combine l with
  | case1 => rfl
  | case2 k v t => rw [wsum_combineAux, wsum_cons]

theorem wsum_normalize (l : List (Int × Rat)) (G : Int → Rat) :
    wsum (normalize l) G = wsum l G := by
  unfold normalize
  rw [wsum_combine]
  exact wsum_perm (List.mergeSort_perm _ _) G

def keys (l : List (Int × Rat)) : List Int := l.map Prod.fst

@[simp] theorem keys_nil : keys [] = [] := rfl
@[simp] theorem keys_cons (e : Int × Rat) (l : List (Int × Rat)) : keys (e :: l) = e.1 :: keys l := rfl
theorem mem_keys {l : List (Int × Rat)} {j : Int} : j ∈ keys l ↔ ∃ e ∈ l, e.1 = j := List.mem_map

theorem keys_combineAux (k : Int) (v : Rat) (t : List (Int × Rat)) (j : Int) :
    j ∈ keys (combineAux k v t) ↔ j = k ∨ j ∈ keys t := by
  fun_induction combineAux k v t with
  | case1 => rw [keys_cons, List.mem_cons]
  | case2 _ _ _ _ ih => rw [ih, keys_cons, List.mem_cons, ← or_assoc, or_self]  -- the same key
  | case3 _ _ _ _ _ _ ih => rw [keys_cons, List.mem_cons, ih, keys_cons, List.mem_cons]  -- another key

theorem keys_combine (l : List (Int × Rat)) (j : Int) : j ∈ keys (combine l) ↔ j ∈ keys l := by
  fun_cases combine l with
  | case1 => rfl
  | case2 k v t => rw [keys_combineAux, keys_cons, List.mem_cons]

theorem keys_normalize (l : List (Int × Rat)) (j : Int) : j ∈ keys (normalize l) ↔ j ∈ keys l := by
  unfold normalize
  rw [keys_combine]
  exact ((List.mergeSort_perm l _).map Prod.fst).mem_iff

theorem combineAux_nonneg {k : Int} {v : Rat} {t : List (Int × Rat)} (hv : 0 ≤ v)
    (ht : ∀ e ∈ t, 0 ≤ e.2) : ∀ e ∈ combineAux k v t, 0 ≤ e.2 := by
  fun_induction combineAux k v t with
  | case1 => intro e he; rw [List.mem_singleton.1 he]; exact hv
  | case2 _ k v' _ ih =>  -- the same key: the values add up
    exact ih (add_nonneg hv (ht (k, v') List.mem_cons_self)) fun e he => ht e (List.mem_cons_of_mem _ he)
  | case3 _ _ k' v' _ _ ih =>  -- another key: `(k, v)` is emitted
    intro e he
    rcases List.mem_cons.1 he with rfl | he
    · exact hv
    · exact ih (ht (k', v') List.mem_cons_self) (fun e he => ht e (List.mem_cons_of_mem _ he)) e he

theorem combine_nonneg {l : List (Int × Rat)} (h : ∀ e ∈ l, 0 ≤ e.2) :
    ∀ e ∈ combine l, 0 ≤ e.2 := by
  fun_cases combine l with
  | case1 => exact fun e he => absurd he List.not_mem_nil
  | case2 k v t =>
    exact combineAux_nonneg (h (k, v) List.mem_cons_self) fun e he => h e (List.mem_cons_of_mem _ he)

theorem normalize_nonneg {l : List (Int × Rat)} (h : ∀ e ∈ l, 0 ≤ e.2) :
    ∀ e ∈ normalize l, 0 ≤ e.2 :=
  combine_nonneg fun e he => h e ((List.mergeSort_perm l _).mem_iff.1 he)

theorem sorted_combineAux {k : Int} {v : Rat} {t : List (Int × Rat)}
    (h : List.Pairwise (fun a b : Int × Rat => a.1 ≤ b.1) ((k, v) :: t)) :
    List.Pairwise (fun a b : Int × Rat => a.1 < b.1) (combineAux k v t) := by
  fun_induction combineAux k v t with
  | case1 => exact List.pairwise_singleton _ _
  | case2 _ _ _ _ ih =>  -- the same key: the values add up
    obtain ⟨hk, ht⟩ := List.pairwise_cons.1 h
    exact ih (List.pairwise_cons.2 ⟨fun e he => hk e (List.mem_cons_of_mem _ he),
      (List.pairwise_cons.1 ht).2⟩)
  | case3 k _ k' _ _ hne ih =>  -- another key: `(k, v)` is emitted
    obtain ⟨hk, ht⟩ := List.pairwise_cons.1 h
    have hkk : k < k' := lt_of_le_of_ne (hk _ List.mem_cons_self) (Ne.symm hne)
    refine List.pairwise_cons.2 ⟨fun e he => ?_, ih ht⟩
    rcases (keys_combineAux _ _ _ _).1 (mem_keys.2 ⟨e, he, rfl⟩) with h1 | h1
    · rw [h1]; exact hkk
    · obtain ⟨e', he', h1⟩ := mem_keys.1 h1
      rw [← h1]; exact lt_of_lt_of_le hkk ((List.pairwise_cons.1 ht).1 e' he')

theorem sorted_combine {l : List (Int × Rat)}
    (h : List.Pairwise (fun a b : Int × Rat => a.1 ≤ b.1) l) :
    List.Pairwise (fun a b : Int × Rat => a.1 < b.1) (combine l) := by
  cases l with
  | nil => exact List.Pairwise.nil
  | cons a t => exact sorted_combineAux h

theorem sorted_normalize (l : List (Int × Rat)) :
    List.Pairwise (fun a b : Int × Rat => a.1 < b.1) (normalize l) := by
  have hs := List.pairwise_mergeSort (le := fun a b : Int × Rat => decide (a.1 ≤ b.1))
    (fun a b c h1 h2 => decide_eq_true (le_trans (of_decide_eq_true h1) (of_decide_eq_true h2)))
    (fun a b => by rw [Bool.or_eq_true, decide_eq_true_eq, decide_eq_true_eq]; exact le_total _ _) l
  exact sorted_combine (hs.imp of_decide_eq_true)

theorem normalize_ne_nil {l : List (Int × Rat)} (h : l ≠ []) : normalize l ≠ [] := by
  obtain ⟨e, he⟩ := List.exists_mem_of_ne_nil l h
  obtain ⟨e', he', _⟩ := mem_keys.1 ((keys_normalize l e.1).2 (mem_keys.2 ⟨e, he, rfl⟩))
  exact List.ne_nil_of_mem he'

/-! ### `expect`: linearity, monotonicity and congruence over the scores words can have -/

theorem expect_zero {σ : Type} [Add σ] [Zero σ] (bg : List Rat) (rows : List (List σ)) :
    expect bg rows (fun _ => 0) = 0 := by
  induction rows with
  | nil => rfl
  | cons r rs ih => simp only [expect, ih, mul_zero, List.map_const', List.sum_replicate, nsmul_zero]

theorem expect_add {σ : Type} [Add σ] [Zero σ] (bg : List Rat) (rows : List (List σ))
    (f h : σ → Rat) :
    expect bg rows (fun s => f s + h s) = expect bg rows f + expect bg rows h := by
  induction rows generalizing f h with
  | nil => rfl
  | cons r rs ih =>
    simp only [expect]
    rw [← List.sum_map_add]
    refine congrArg List.sum (List.map_congr_left fun xb _ => ?_)
    rw [ih, mul_add]

/-- the scores words can have -/
def Reach {σ : Type} [Add σ] [Zero σ] : List (List σ) → σ → Prop
  | [], s => s = 0
  | r :: rs, s => ∃ x ∈ r, ∃ s', Reach rs s' ∧ s = x + s'

theorem expect_mono_reach {σ : Type} [Add σ] [Zero σ] {bg : List Rat} (hbg : ∀ b ∈ bg, 0 ≤ b)
    (rows : List (List σ)) {f h : σ → Rat} (hfh : ∀ s, Reach rows s → f s ≤ h s) :
    expect bg rows f ≤ expect bg rows h := by
  induction rows generalizing f h with
  | nil => exact hfh 0 rfl
  | cons r rs ih =>
    apply List.sum_le_sum
    intro xb hxb
    refine mul_le_mul_of_nonneg_left (ih fun s hs => hfh _ ?_) (hbg _ (List.of_mem_zip hxb).2)
    exact ⟨xb.1, (List.of_mem_zip hxb).1, s, hs, rfl⟩

theorem expect_mono {σ : Type} [Add σ] [Zero σ] {bg : List Rat} (hbg : ∀ b ∈ bg, 0 ≤ b)
    (rows : List (List σ)) {f h : σ → Rat} (hfh : ∀ s, f s ≤ h s) :
    expect bg rows f ≤ expect bg rows h :=
  expect_mono_reach hbg rows fun s _ => hfh s

theorem expect_congr {σ : Type} [Add σ] [Zero σ] (bg : List Rat) (rows : List (List σ))
    {f h : σ → Rat} (hfh : ∀ s, Reach rows s → f s = h s) : expect bg rows f = expect bg rows h := by
  induction rows generalizing f h with
  | nil => exact hfh 0 rfl
  | cons r rs ih =>
    refine congrArg List.sum (List.map_congr_left fun xb hxb => ?_)
    rw [ih fun s hs => hfh _ ⟨xb.1, (List.of_mem_zip hxb).1, s, hs, rfl⟩]

theorem expect_map {σ τ : Type} [Add σ] [Zero σ] [Add τ] [Zero τ] (bg : List Rat) (φ : σ → τ)
    (hadd : ∀ a b, φ (a + b) = φ a + φ b) (h0 : φ 0 = 0) (rows : List (List σ)) (f : τ → Rat) :
    expect bg (rows.map (List.map φ)) f = expect bg rows (fun s => f (φ s)) := by
  induction rows generalizing f with
  | nil => simp [expect, h0]
  | cons r rs ih =>
    simp only [List.map_cons, expect, List.zip_map_left, List.map_map]
    refine congrArg List.sum (List.map_congr_left fun xb _ => ?_)
    simp only [Function.comp, Prod.map_fst, Prod.map_snd, id]
    rw [ih]
    congr 2
    funext s
    rw [hadd]

/-! ### integer rows: extrema and the range of reachable scores -/

theorem le_listMax {r : List Int} {x : Int} (hx : x ∈ r) : x ≤ listMax r := by
  cases r with
  | nil => cases hx
  | cons a t => exact ((List.max?_eq_some_iff (xs := a :: t)).1 List.max?_cons').2 x hx

theorem listMin_le {r : List Int} {x : Int} (hx : x ∈ r) : listMin r ≤ x := by
  cases r with
  | nil => cases hx
  | cons a t => exact ((List.min?_eq_some_iff (xs := a :: t)).1 List.min?_cons').2 x hx

/-- every cell of the integer matrix is ≥ 0 (true after the offsets have been added) -/
def NonnegRows (rows : List (List Int)) : Prop := ∀ r ∈ rows, ∀ x ∈ r, 0 ≤ x

theorem listMax_nonneg {r : List Int} (h : ∀ x ∈ r, 0 ≤ x) : 0 ≤ listMax r := by
  cases r with
  | nil => exact le_rfl
  | cons a t => exact (h a List.mem_cons_self).trans (le_listMax List.mem_cons_self)

theorem sumMax_nonneg {rows : List (List Int)} (h : NonnegRows rows) : 0 ≤ sumMax rows :=
  List.sum_nonneg fun x hx => by
    obtain ⟨r, hr, rfl⟩ := List.mem_map.1 hx
    exact listMax_nonneg (h r hr)

theorem sumMax_cons (r : List Int) (rs : List (List Int)) :
    sumMax (r :: rs) = listMax r + sumMax rs := by
  simp [sumMax]

theorem reach_range {rows : List (List Int)} (hrows : NonnegRows rows) {s : Int}
    (h : Reach rows s) : 0 ≤ s ∧ s ≤ sumMax rows := by
  induction rows generalizing s with
  | nil => rw [show s = 0 from h]; exact ⟨le_rfl, le_rfl⟩
  | cons r rs ih =>
    obtain ⟨x, hx, s', hs', rfl⟩ := h
    have h1 := ih (fun r' hr' => hrows r' (List.mem_cons_of_mem _ hr')) hs'
    rw [sumMax_cons]
    exact ⟨add_nonneg (hrows r List.mem_cons_self x hx) h1.1, add_le_add (le_listMax hx) h1.2⟩

theorem sum_listMin_le_of_reach {rows : List (List Int)} {s : Int} (h : Reach rows s) :
    (rows.map listMin).sum ≤ s := by
  induction rows generalizing s with
  | nil => rw [show s = 0 from h]; exact le_rfl
  | cons r rs ih =>
    obtain ⟨x, hx, s', hs', rfl⟩ := h
    rw [List.map_cons, List.sum_cons]
    exact add_le_add (listMin_le hx) (ih hs')

theorem listMin_le_listMax (r : List Int) : listMin r ≤ listMax r := by
  cases r with
  | nil => exact le_rfl
  | cons x t => exact le_trans (listMin_le (List.mem_cons_self)) (le_listMax (List.mem_cons_self))

theorem sum_listMin_le_sumMax (rows : List (List Int)) : (rows.map listMin).sum ≤ sumMax rows :=
  List.sum_le_sum fun r _ => listMin_le_listMax r

/-! ### (D): what `distribution min max` computes -/

/-- test functions a window `[min, max]` can tell apart: zero below `min`, constant above `max` -/
def Adm (min max : Int) (f : Int → Rat) : Prop :=
  (∀ k, k < min → f k = 0) ∧ (∀ k, max < k → f k = f (max + 1))

theorem Adm.below {min max : Int} {f : Int → Rat} (hf : Adm min max f) {k : Int} (h : k < min) :
    f k = 0 := hf.1 k h

theorem Adm.above {min max : Int} {f : Int → Rat} (hf : Adm min max f) {k : Int} (h : max < k) :
    f k = f (max + 1) := hf.2 k h

/-- mass that the entries of a map put on `f` once extended through the remaining rows -/
def push (bg : List Rat) (rest : List (List Int)) (f : Int → Rat) (q : List (Int × Rat)) : Rat :=
  wsum q (fun k => expect bg rest (fun s => f (k + s)))

/-- one entry `(key, val)` of the previous row, extended by every symbol of `row` -/
def entryStep (row : List Int) (bg : List Rat) (maxsNext min max : Int) (key : Int) (val : Rat) :
    List (Int × Rat) :=
  (row.zip bg).filterMap fun xb =>
    if key + xb.1 + maxsNext ≥ min then
      some (if key + xb.1 > max then max + 1 else key + xb.1, val * xb.2)
    else none

theorem stepEntries_eq (row : List Int) (bg : List Rat) (maxsNext min max : Int)
    (q : List (Int × Rat)) :
    stepEntries row bg maxsNext min max q =
      q.flatMap fun e => entryStep row bg maxsNext min max e.1 e.2 := rfl

/-- pruning is sound: when `min` is out of reach the extension contributes nothing, because a test
    function vanishes below `min` (`Adm.below`, upper half of `reach_range`) -/
theorem expect_pruned (bg : List Rat) {rest : List (List Int)} (hrest : NonnegRows rest)
    {min max : Int} {f : Int → Rat} (hf : Adm min max f) {x : Int}
    (h : ¬ x + sumMax rest ≥ min) : expect bg rest (fun s => f (x + s)) = 0 := by
  refine (expect_congr bg rest fun s hs => hf.below ?_).trans (expect_zero bg rest)
  exact lt_of_le_of_lt (Int.add_le_add_left (reach_range hrest hs).2 x) (not_le.1 h)

theorem entryStep_spec (bg : List Rat) {row : List Int} {rest : List (List Int)}
    (hrest : NonnegRows rest) {min max : Int} {f : Int → Rat}
    (hf : Adm min max f) (key : Int) (val : Rat) :
    wsum (entryStep row bg (sumMax rest) min max key val)
        (fun k => expect bg rest (fun s => f (k + s))) =
      val * expect bg (row :: rest) (fun s => f (key + s)) := by
  unfold entryStep
  rw [wsum_filterMap]
  simp only [expect, ← add_assoc]
  rw [← List.sum_map_mul_left]
  refine congrArg List.sum (List.map_congr_left fun xb _ => ?_)
  obtain ⟨x, b⟩ := xb
  by_cases hp : key + x + sumMax rest ≥ min
  · simp only [hp, if_true]
    by_cases ho : key + x > max
    · -- the bucket: a test function is constant above `max` (`Adm.above`) and the
      -- remaining rows add `≥ 0` (lower half of `reach_range`)
      simp only [ho, if_true]
      rw [expect_congr bg rest (h := fun s => f (key + x + s)) fun s hs => by
        have := (reach_range hrest hs).1
        rw [hf.above (k := max + 1 + s) (lt_add_of_lt_of_nonneg (Int.lt_succ max) this),
          hf.above (k := key + x + s) (lt_add_of_lt_of_nonneg ho this)]]
      exact mul_assoc _ _ _
    · simp only [ho, if_false]
      exact mul_assoc _ _ _
  · simp only [hp, if_false]
    rw [expect_pruned bg hrest hf hp, mul_zero, mul_zero]

theorem stepEntries_spec (bg : List Rat) {row : List Int} {rest : List (List Int)}
    (hrest : NonnegRows rest) {min max : Int} {f : Int → Rat}
    (hf : Adm min max f) (q : List (Int × Rat)) :
    push bg rest f (stepEntries row bg (sumMax rest) min max q) = push bg (row :: rest) f q := by
  unfold push
  rw [stepEntries_eq, wsum_flatMap]
  refine congrArg List.sum (List.map_congr_left fun e _ => ?_)
  exact entryStep_spec bg hrest hf e.1 e.2

theorem push_normalize (bg : List Rat) (rest : List (List Int)) (f : Int → Rat)
    (l : List (Int × Rat)) : push bg rest f (normalize l) = push bg rest f l :=
  wsum_normalize l _

theorem distFrom_spec (bg : List Rat) {rest : List (List Int)} (hrest : NonnegRows rest)
    {min max : Int} {f : Int → Rat} (hf : Adm min max f)
    (q : List (Int × Rat)) :
    wsum (distFrom bg min max rest q) f = push bg rest f q := by
  fun_induction distFrom bg min max rest q with
  | case1 q => simp [push, expect]
  | case2 row rest q ih =>
    have hr : NonnegRows rest := fun r' hr' => hrest r' (List.mem_cons_of_mem _ hr')
    rw [ih hr, push_normalize, stepEntries_spec bg hr hf]

theorem firstEntries_spec (bg : List Rat) {row : List Int} {rest : List (List Int)}
    (hrest : NonnegRows rest) {min max : Int} {f : Int → Rat} (hf : Adm min max f) :
    push bg rest f (firstEntries row bg (sumMax rest) min) = expect bg (row :: rest) f := by
  unfold push firstEntries
  rw [wsum_filterMap]
  refine congrArg List.sum (List.map_congr_left fun xb _ => ?_)
  obtain ⟨x, b⟩ := xb
  by_cases hp : x + sumMax rest ≥ min
  · simp only [hp, if_true]
  · simp only [hp, if_false]
    rw [expect_pruned bg hrest hf hp, mul_zero]

/-- **(D)**  For every window and every test function that is zero below `min`
    and constant above `max`, the map returned by `distribution min max` integrates it exactly as
    the distribution of the integer word score `D` does.  (Instances: `f = 1_{k}` for
    `min ≤ k ≤ max` gives `q[k] = P(D = k)`; `f = 1_{> max}` gives `q[max+1] = P(D > max)`;
    `f = 1_{≥ t}` for `min ≤ t ≤ max+1` gives the tails.)  Pruning soundness is `Adm.below`,
    the bucket is `Adm.above`. -/
theorem distribution_spec (bg : List Rat) {im : List (List Int)} (him : NonnegRows im)
    (hne : im ≠ []) {min max : Int} {f : Int → Rat} (hf : Adm min max f) :
    wsum (distribution im bg min max) f = expect bg im f := by
  fun_cases distribution im bg min max with
  | case1 => exact absurd rfl hne
  | case2 row0 rest =>
    have hr : NonnegRows rest := fun r' hr' => him r' (List.mem_cons_of_mem _ hr')
    rw [wsum_normalize, wsum_cons, distFrom_spec bg hr hf, push_normalize,
      firstEntries_spec bg hr hf, zero_rat, zero_mul, zero_add]

/-! ### keys and values of the map returned by `distribution` -/

theorem mem_entryStep {row : List Int} {bg : List Rat} {maxsNext min max key : Int} {val : Rat}
    {e : Int × Rat} (he : e ∈ entryStep row bg maxsNext min max key val) :
    ∃ xb ∈ row.zip bg, key + xb.1 + maxsNext ≥ min ∧
      e = (if key + xb.1 > max then max + 1 else key + xb.1, val * xb.2) := by
  unfold entryStep at he
  rw [List.mem_filterMap] at he
  obtain ⟨xb, hxb, h⟩ := he
  refine ⟨xb, hxb, ?_⟩
  by_cases hp : key + xb.1 + maxsNext ≥ min
  · simp only [hp, if_true, Option.some.injEq] at h
    exact ⟨hp, h.symm⟩
  · simp [hp] at h

theorem mem_firstEntries {row : List Int} {bg : List Rat} {maxsNext min : Int} {e : Int × Rat}
    (he : e ∈ firstEntries row bg maxsNext min) : e ∈ row.zip bg ∧ e.1 + maxsNext ≥ min := by
  obtain ⟨xb, hxb, h⟩ := List.mem_filterMap.1 he
  by_cases hp : xb.1 + maxsNext ≥ min
  · simp only [hp, if_true, Option.some.injEq] at h
    exact h ▸ ⟨hxb, hp⟩
  · simp [hp] at h

theorem keys_stepEntries {row : List Int} {bg : List Rat} {ms min max : Int} {q : List (Int × Rat)}
    {j : Int} (hj : j ∈ keys (stepEntries row bg ms min max q)) :
    ∃ k x, min ≤ k + x + ms ∧ j = if k + x > max then max + 1 else k + x := by
  obtain ⟨e, he, rfl⟩ := mem_keys.1 hj
  rw [stepEntries_eq, List.mem_flatMap] at he
  obtain ⟨e0, he0, he⟩ := he
  obtain ⟨xb, hxb, hp, rfl⟩ := mem_entryStep he
  exact ⟨e0.1, xb.1, hp, rfl⟩

theorem stepEntries_nonneg {row : List Int} {bg : List Rat} (hbg : ∀ b ∈ bg, 0 ≤ b) {ms min max : Int}
    {q : List (Int × Rat)} (hq : ∀ e ∈ q, 0 ≤ e.2) :
    ∀ e ∈ stepEntries row bg ms min max q, 0 ≤ e.2 := by
  intro e he
  rw [stepEntries_eq, List.mem_flatMap] at he
  obtain ⟨e0, he0, he⟩ := he
  obtain ⟨xb, hxb, _, rfl⟩ := mem_entryStep he
  exact mul_nonneg (hq e0 he0) (hbg _ (List.of_mem_zip hxb).2)

/-- Only `stepEntries` buckets a score above `max` into `max + 1`; row 0 (`firstEntries`) does not.
    Hence the upper bound only after at least one further row. -/
theorem distFrom_keys {bg : List Rat} {min max : Int} (hmm : min ≤ max + 1) {rest : List (List Int)}
    (hrest : NonnegRows rest) {q : List (Int × Rat)} (hq : ∀ k ∈ keys q, min ≤ k + sumMax rest) :
    ∀ j ∈ keys (distFrom bg min max rest q), min ≤ j ∧ (rest ≠ [] → j ≤ max + 1) := by
  induction rest generalizing q with
  | nil => exact fun j hj => ⟨(hq j hj).trans_eq (add_zero j), fun h => absurd rfl h⟩
  | cons row rest ih =>
    have hr : NonnegRows rest := fun r' hr' => hrest r' (List.mem_cons_of_mem _ hr')
    have hstep : ∀ k ∈ keys (normalize (stepEntries row bg (sumMax rest) min max q)),
        min ≤ k + sumMax rest ∧ k ≤ max + 1 := by
      intro k hk
      obtain ⟨k0, x, hp, rfl⟩ := keys_stepEntries ((keys_normalize _ _).1 hk)
      by_cases h : k0 + x > max
      · rw [if_pos h]; exact ⟨le_add_of_le_of_nonneg hmm (sumMax_nonneg hr), le_rfl⟩
      · rw [if_neg h]; exact ⟨hp, Int.le_add_one (not_lt.1 h)⟩
    intro j hj
    refine ⟨(ih hr (fun k hk => (hstep k hk).1) j hj).1, fun _ => ?_⟩
    cases rest with
    | nil => exact (hstep j hj).2
    | cons _ _ => exact (ih hr (fun k hk => (hstep k hk).1) j hj).2 (List.cons_ne_nil _ _)

/-- The upper bound needs `M ≥ 2`: for `M = 1` the keys are the cells of row 0 as they are, e.g.
    `distribution [[5]] [1] 0 2 = [(3, 0), (5, 1)]`. -/
theorem distribution_keys {bg : List Rat} {im : List (List Int)} (him : NonnegRows im)
    {min max : Int} (hmm : min ≤ max + 1) :
    ∀ j ∈ keys (distribution im bg min max), min ≤ j ∧ (2 ≤ im.length → j ≤ max + 1) := by
  cases im with
  | nil => exact fun j hj => absurd hj List.not_mem_nil
  | cons row0 rest =>
    have hr : NonnegRows rest := fun r' hr' => him r' (List.mem_cons_of_mem _ hr')
    intro j hj
    rw [distribution, keys_normalize, keys_cons, List.mem_cons] at hj
    rcases hj with rfl | hj
    · exact ⟨hmm, fun _ => le_rfl⟩
    · refine (distFrom_keys hmm hr (fun k hk => ?_) j hj).imp_right fun h hl => h ?_
      · obtain ⟨e, he, rfl⟩ := mem_keys.1 ((keys_normalize _ _).1 hk)
        exact (mem_firstEntries he).2
      · intro h; subst h; exact absurd hl (Nat.not_succ_le_self 1)

theorem distFrom_nonneg {bg : List Rat} (hbg : ∀ b ∈ bg, 0 ≤ b) (min max : Int) (rest : List (List Int))
    {q : List (Int × Rat)} (hq : ∀ e ∈ q, 0 ≤ e.2) : ∀ e ∈ distFrom bg min max rest q, 0 ≤ e.2 := by
  fun_induction distFrom bg min max rest q with
  | case1 q => exact hq
  | case2 row rest q ih => exact ih (normalize_nonneg (stepEntries_nonneg hbg hq))

theorem distribution_nonneg {bg : List Rat} (hbg : ∀ b ∈ bg, 0 ≤ b) (im : List (List Int))
    (min max : Int) : ∀ e ∈ distribution im bg min max, 0 ≤ e.2 := by
  fun_cases distribution im bg min max with
  | case1 => exact fun e he => absurd he List.not_mem_nil
  | case2 row0 rest =>
    refine normalize_nonneg fun e he => ?_
    rcases List.mem_cons.1 he with rfl | he
    · exact le_rfl
    · refine distFrom_nonneg hbg min max rest (normalize_nonneg fun e he => ?_) e he
      exact hbg _ (List.of_mem_zip (mem_firstEntries he).1).2

theorem distribution_bucket_key (bg : List Rat) {im : List (List Int)} (hne : im ≠ [])
    (min max : Int) : max + 1 ∈ keys (distribution im bg min max) := by
  cases im with
  | nil => exact absurd rfl hne
  | cons row0 rest => rw [distribution, keys_normalize, keys_cons]; exact List.mem_cons_self

theorem distribution_ne_nil (bg : List Rat) {im : List (List Int)} (hne : im ≠ []) (min max : Int) :
    distribution im bg min max ≠ [] := by
  cases im with
  | nil => exact absurd rfl hne
  | cons row0 rest => exact normalize_ne_nil (List.cons_ne_nil _ _)

theorem distribution_sorted (bg : List Rat) (im : List (List Int)) (min max : Int) :
    (distribution im bg min max).Pairwise (fun a b => a.1 < b.1) := by
  unfold distribution
  split
  · exact List.Pairwise.nil
  · exact sorted_normalize _

/-! ### tails read off a map, and the tails of the integer score -/

theorem total_eq (q : List (Int × Rat)) : total q = (q.map (·.2)).sum := by
  induction q with
  | nil => rfl
  | cons e t ih =>
    simp only [total, List.foldr_cons, add_rat, List.map_cons, List.sum_cons] at ih ⊢
    rw [ih, add_comm]

theorem tailFrom_eq (q : List (Int × Rat)) (k : Int) :
    tailFrom q k = wsum q (fun j => if k ≤ j then 1 else 0) := by
  unfold tailFrom
  rw [total_eq]
  induction q with
  | nil => rfl
  | cons e t ih =>
    rw [wsum_cons, ← ih, List.filter_cons]
    by_cases h : k ≤ e.1
    · rw [if_pos (decide_eq_true h), if_pos h, mul_one, List.map_cons, List.sum_cons]
    · rw [if_neg (by rwa [decide_eq_true_eq]), if_neg h, mul_zero, zero_add]

theorem tailFrom_eq_of_no_key {Q : List (Int × Rat)} {lo hi : Int}
    (h : ∀ e ∈ Q, e.1 < lo ∨ hi ≤ e.1) (hle : lo ≤ hi) : tailFrom Q lo = tailFrom Q hi := by
  rw [tailFrom_eq, tailFrom_eq]
  apply wsum_congr
  intro e he
  rcases h e he with h1 | h1
  · rw [if_neg (not_le.2 h1), if_neg (not_le.2 (h1.trans_le hle))]
  · rw [if_pos (hle.trans h1), if_pos h1]

theorem ite_le_ite {A B : Prop} [Decidable A] [Decidable B] (h : A → B) :
    (if A then (1 : Rat) else 0) ≤ if B then 1 else 0 := by
  by_cases a : A
  · rw [if_pos a, if_pos (h a)]
  · rw [if_neg a]; split; exacts [zero_le_one, le_rfl]

theorem tailFrom_antitone {Q : List (Int × Rat)} (hv : ∀ e ∈ Q, 0 ≤ e.2) {j k : Int} (h : j ≤ k) :
    tailFrom Q k ≤ tailFrom Q j := by
  rw [tailFrom_eq, tailFrom_eq]
  exact wsum_mono hv fun e _ => ite_le_ite (le_trans h)

theorem tailFrom_distribution (bg : List Rat) {im : List (List Int)} (him : NonnegRows im)
    (hne : im ≠ []) {min max k : Int} (h1 : min ≤ k) (h2 : k ≤ max + 1) :
    tailFrom (distribution im bg min max) k = tailD bg im k := by
  rw [tailFrom_eq, tailD, ← distribution_spec bg him hne (min := min) (max := max)]
  -- left: the indicator of `k ≤ ·` is `Adm min max`, being 0 below `min ≤ k` and 1 from `max + 1 ≥ k` on
  exact ⟨fun j hj => if_neg (not_le.2 (hj.trans_le h1)),
    fun j hj => (if_pos (h2.trans (Int.add_one_le_iff.2 hj))).trans (if_pos h2).symm⟩

theorem tailD_antitone {bg : List Rat} (hbg : ∀ b ∈ bg, 0 ≤ b) (im : List (List Int)) {j k : Int}
    (h : j ≤ k) : tailD bg im k ≤ tailD bg im j :=
  expect_mono hbg im fun _ => ite_le_ite (le_trans h)

theorem tailD_of_sumMax_lt (bg : List Rat) {im : List (List Int)} (him : NonnegRows im) {k : Int}
    (h : sumMax im < k) : tailD bg im k = 0 := by
  refine (expect_congr bg im fun s hs => if_neg (not_le.2 ?_)).trans (expect_zero bg im)
  exact lt_of_le_of_lt (reach_range him hs).2 h

theorem tailD_of_le_sum_listMin (bg : List Rat) {im : List (List Int)} {j k : Int}
    (hj : j ≤ (im.map listMin).sum) (hk : k ≤ (im.map listMin).sum) : tailD bg im j = tailD bg im k := by
  refine expect_congr bg im fun s hs => ?_
  have := sum_listMin_le_of_reach hs
  rw [if_pos (hj.trans this), if_pos (hk.trans this)]

/-! ### (R): rounding, through the coupling of exact and integer score of one word -/

theorem maxBy_spec {l : List Rat} (hl : l ≠ []) : maxBy l ∈ l ∧ ∀ y ∈ l, y ≤ maxBy l := by
  cases l with
  | nil => exact absurd rfl hl
  | cons x t =>
    refine List.max?_eq_some_iff.1 ?_
    rw [List.max?_cons']
    -- `if y < acc then acc else y` is `max acc y`
    simp only [maxBy, lt_rat, decide_eq_true_eq, ← not_le, ite_not, ← max_def]

theorem rowErr_spec (g : Rat) (r : List Rat) :
    (∀ x ∈ r, x / g - (⌊x / g⌋ : Rat) ≤ rowErr g r) ∧ 0 ≤ rowErr g r ∧ rowErr g r < 1 := by
  have hfrac : ∀ y ∈ rowErrs g r, 0 ≤ y ∧ y < 1 := by
    intro y hy
    simp only [rowErrs, List.mem_map, div_rat, sub_rat, ofInt_rat, floor_rat] at hy
    obtain ⟨x, _, rfl⟩ := hy
    exact ⟨Int.fract_nonneg _, Int.fract_lt_one _⟩
  refine ⟨fun x hx => ?_, ?_⟩
  · have hmem : x / g - (⌊x / g⌋ : Rat) ∈ rowErrs g r := by
      simp only [rowErrs, List.mem_map, div_rat, sub_rat, ofInt_rat, floor_rat]
      exact ⟨x, hx, rfl⟩
    exact (maxBy_spec (List.ne_nil_of_mem hmem)).2 _ hmem
  · by_cases hr : rowErrs g r = []
    · rw [rowErr, hr]; exact ⟨le_rfl, zero_lt_one⟩
    · exact hfrac _ (maxBy_spec hr).1

theorem errorMax_eq (g : Rat) (rows : List (List Rat)) :
    errorMax g rows = ((rows.drop 1).map (rowErr g)).sum := by
  rw [List.sum_eq_foldl, List.foldl_map]; rfl

theorem sum_rowErr_bounds (g : Rat) (rs : List (List Rat)) :
    0 ≤ (rs.map (rowErr g)).sum ∧ (rs.map (rowErr g)).sum ≤ rs.length := by
  induction rs with
  | nil => simp
  | cons r rs ih =>
    obtain ⟨_, h1, h2⟩ := rowErr_spec g r
    simp only [List.map_cons, List.sum_cons, List.length_cons, Nat.cast_add, Nat.cast_one]
    exact ⟨add_nonneg h1 ih.1, by rw [add_comm]; exact add_le_add ih.2 h2.le⟩

theorem errorMax_nonneg (g : Rat) (rows : List (List Rat)) : 0 ≤ errorMax g rows := by
  rw [errorMax_eq]; exact (sum_rowErr_bounds g _).1

theorem floor_sub_errorMax_le (g : Rat) (rows : List (List Rat)) (X : Rat) :
    ⌊X - errorMax g rows - 1⌋ ≤ ⌊X⌋ :=
  Int.floor_le_floor ((sub_le_self _ zero_le_one).trans (sub_le_self _ (errorMax_nonneg g rows)))

theorem ceil_pos {x : Rat} (hx : 0 < x) : 0 < Rat.ceil x :=
  Int.cast_pos.1 (hx.trans_le Rat.le_ceil)

theorem ne_nil_of_two_le {β : Type} {l : List β} (h : 2 ≤ l.length) : l ≠ [] :=
  List.ne_nil_of_length_pos (Nat.lt_of_lt_of_le Nat.zero_lt_two h)

/-- `error_max ≤ M - 1`: row 0 is not part of it -/
theorem errorMax_le (g : Rat) {rows : List (List Rat)} (hne : rows ≠ []) :
    errorMax g rows ≤ (rows.length : Rat) - 1 := by
  obtain ⟨r, rs, rfl⟩ := List.exists_cons_of_ne_nil hne
  rw [errorMax_eq, List.drop_one, List.tail_cons, List.length_cons, Nat.cast_add, Nat.cast_one,
    add_sub_cancel_right]
  exact (sum_rowErr_bounds g rs).2

/-- a row of cells paired with their integer images (offset included) -/
def pairRow (g : Rat) (r : List Rat) : List (Rat × Int) :=
  r.map fun x => (x, ⌊x / g⌋ + rowOffset (floorRow g r))

def pairRows (g : Rat) (rows : List (List Rat)) : List (List (Rat × Int)) := rows.map (pairRow g)

theorem pairRows_fst (g : Rat) (rows : List (List Rat)) :
    (pairRows g rows).map (List.map Prod.fst) = rows := by
  simp [pairRows, pairRow, Function.comp_def]

theorem pairRows_snd (g : Rat) (rows : List (List Rat)) :
    (pairRows g rows).map (List.map Prod.snd) = (recompute rows g).im := by
  rw [pairRows, List.map_map]
  refine List.map_congr_left fun r _ => ?_
  rw [Function.comp_apply, pairRow, intRow, floorRow, List.map_map, List.map_map]; rfl

theorem expect_pair_fst (bg : List Rat) (g : Rat) (rows : List (List Rat)) (f : Rat → Rat) :
    expect bg (pairRows g rows) (fun sd => f sd.1) = expect bg rows f := by
  have := expect_map bg (Prod.fst : Rat × Int → Rat) (fun _ _ => rfl) rfl (pairRows g rows) f
  rw [pairRows_fst] at this
  exact this.symm

theorem expect_pair_snd (bg : List Rat) (g : Rat) (rows : List (List Rat)) (f : Int → Rat) :
    expect bg (pairRows g rows) (fun sd => f sd.2) = expect bg (recompute rows g).im f := by
  have := expect_map bg (Prod.snd : Rat × Int → Int) (fun _ _ => rfl) rfl (pairRows g rows) f
  rw [pairRows_snd] at this
  exact this.symm

theorem nonneg_im (g : Rat) (rows : List (List Rat)) : NonnegRows (recompute rows g).im := by
  intro r hr x hx
  simp only [recompute, List.mem_map] at hr
  obtain ⟨r0, _, rfl⟩ := hr
  simp only [intRow, List.mem_map] at hx
  obtain ⟨y, hy, rfl⟩ := hx
  exact Int.sub_nonneg_of_le (listMin_le hy)

theorem offsets_eq (g : Rat) (rows : List (List Rat)) :
    (recompute rows g).offsets = rows.map (fun r => rowOffset (floorRow g r)) := rfl

theorem reach_nil {g : Rat} {S : Rat} {D : Int} (h : Reach (pairRows g []) (S, D)) :
    S = 0 ∧ D = 0 :=
  ⟨congrArg Prod.fst (show (S, D) = 0 from h), congrArg Prod.snd (show (S, D) = 0 from h)⟩

theorem reach_cons {g : Rat} {r : List Rat} {rs : List (List Rat)} {S : Rat} {D : Int}
    (h : Reach (pairRows g (r :: rs)) (S, D)) :
    ∃ x ∈ r, ∃ S' D', Reach (pairRows g rs) (S', D') ∧ S = x + S' ∧
      D = ⌊x / g⌋ + rowOffset (floorRow g r) + D' := by
  obtain ⟨xd, hxd, ⟨S', D'⟩, hr, heq⟩ := h
  simp only [pairRow, List.mem_map] at hxd
  obtain ⟨x, hx, rfl⟩ := hxd
  exact ⟨x, hx, S', D', hr, congrArg Prod.fst heq, congrArg Prod.snd heq⟩

/-- the distance from the integer score of a word to its rescaled exact score is that of its first
    cell plus that of the rest -/
theorem rescaled_sub_cons (x g S' : Rat) (n o D' O' : Int) :
    (x + S') / g + ((o + O' : Int) : Rat) - ((n + o + D' : Int) : Rat) =
      (x / g - n) + (S' / g + (O' : Int) - D') := by
  push_cast; ring

theorem reach_tailRows (g : Rat) (rs : List (List Rat)) {S : Rat} {D : Int}
    (h : Reach (pairRows g rs) (S, D)) :
    0 ≤ S / g + ((rs.map fun r => rowOffset (floorRow g r)).sum : Int) - D ∧
      S / g + ((rs.map fun r => rowOffset (floorRow g r)).sum : Int) - D ≤
        (rs.map (rowErr g)).sum := by
  induction rs generalizing S D with
  | nil =>
    obtain ⟨rfl, rfl⟩ := reach_nil h
    simp
  | cons r rs ih =>
    obtain ⟨x, hx, S', D', hr, rfl, rfl⟩ := reach_cons h
    obtain ⟨i1, i2⟩ := ih hr
    rw [List.map_cons, List.sum_cons, List.map_cons, List.sum_cons, rescaled_sub_cons]
    exact ⟨add_nonneg (Int.fract_nonneg _) i1, add_le_add ((rowErr_spec g r).1 x hx) i2⟩

/-- **(R)**  For every word, with `X = S/g + Σ offsets` its rescaled real score, `D` its integer
    score and `E = error_max`:  `D ≤ X < D + E + 1`  (row 0 contributes less than 1 and is not part
    of `E`; every other row contributes at most its error bound). -/
theorem rounding (g : Rat) (rows : List (List Rat)) {S : Rat} {D : Int}
    (h : Reach (pairRows g rows) (S, D)) :
    ((D : Rat) ≤ S / g + ((recompute rows g).offsets.sum : Int)) ∧
      S / g + ((recompute rows g).offsets.sum : Int) < (D : Rat) + errorMax g rows + 1 := by
  -- `0 ≤ X - D < 1 + E`
  rw [← sub_nonneg, add_assoc, ← sub_lt_iff_lt_add']
  cases rows with
  | nil =>
    obtain ⟨i1, i2⟩ := reach_tailRows g [] h
    exact ⟨i1, i2.trans_lt (add_pos_of_nonneg_of_pos (errorMax_nonneg g []) zero_lt_one)⟩
  | cons r rs =>
    obtain ⟨x, hx, S', D', hr, rfl, rfl⟩ := reach_cons h
    obtain ⟨i1, i2⟩ := reach_tailRows g rs hr
    rw [errorMax_eq, offsets_eq, List.drop_one, List.tail_cons, List.map_cons, List.sum_cons,
      rescaled_sub_cons, add_comm _ 1]
    exact ⟨add_nonneg (Int.fract_nonneg _) i1, add_lt_add_of_lt_of_le (Int.fract_lt_one _) i2⟩

/-! ### the hypotheses of (D) and (R) are satisfiable -/

example : NonnegRows [[0, 3], [1, 0]] ∧ ([[0, 3], [1, 0]] : List (List Int)) ≠ [] ∧
    Adm 1 2 (fun k => if k = 2 then 1 else 0) := by
  refine ⟨by intro r hr x hx; simp at hr; rcases hr with rfl | rfl <;> simp at hx <;> omega,
    by simp, ?_, ?_⟩
  · intro k hk
    have : k ≠ 2 := by omega
    simp [this]
  · intro k hk
    have : k ≠ 2 := by omega
    simp [this]

example : Reach (pairRows (1 / 10) [[1 / 4]]) (1 / 4, 0) := by
  refine ⟨(1 / 4, 0), ?_, (0, 0), rfl, by simp⟩
  simp [pairRow, floorRow, rowOffset, listMin]

end LMV.Tfm
