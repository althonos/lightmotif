/-
  LMV.Lemmas.JasparRT — round trip through the JASPAR reader.  First for any format: what the reader
  needs to know of one (`FormatOK`) to return the motifs of a rendered file in order, then end of
  input, for every chunk schedule and every capacity policy (`roundTrip_of`).  Then the raw format
  is one: its record parser returns exactly the rendered motif (count lines, header line, matrix).
  Core Lean only.
-/
import LMV.Lemmas.Render
import LMV.Lemmas.Jaspar
import LMV.Lemmas.BuildSpec
import LMV.Lemmas.Reader

namespace LMV

open Io Nom

namespace Jaspar

/-! ### the reader on a rendered file, for any format it reads -/

section Generic

variable {ρ src : Type}

def afterMark (render1 : src → Bytes) (r : src) : Bytes := (render1 r).tail

/-- what the stream holds once the `>` of the first of the motifs `rs` has been read -/
def streamOf (render1 : src → Bytes) : List src → Bytes
  | [] => []
  | r :: rs => afterMark render1 r ++ rs.flatMap render1

def nextMark : List src → Bytes
  | [] => []
  | _ :: _ => [0x3E]

theorem nextMark_cases (rs : List src) : nextMark rs = [] ∨ nextMark rs = [0x3E] := by
  cases rs with
  | nil => exact .inl rfl
  | cons _ _ => exact .inr rfl

structure FormatOK (parse : Parser (Except String ρ)) (render1 : src → Bytes) (expect : src → ρ)
    (WF : src → Prop) : Prop where
  head : ∀ r, WF r → render1 r = 0x3E :: afterMark render1 r
  plain : ∀ r, WF r → Plain 0x3E (afterMark render1 r)
  ne : ∀ r, WF r → afterMark render1 r ≠ []
  -- only before the end of the file or the next `>`: the 2016 parser reads symbol lines while it
  -- can (`many1`) and must fail on what follows (`Jaspar16.matrixColumn_stop`)
  parse_ok : ∀ r, WF r → ∀ rest, (rest = [] ∨ rest = [0x3E]) →
    parse (render1 r ++ rest) = .ok rest (.ok (expect r))

variable {parse : Parser (Except String ρ)} {render1 : src → Bytes} {expect : src → ρ}
  {WF : src → Prop}

theorem through_stream (F : FormatOK parse render1 expect WF) (r : src) (rs : List src)
    (h : WF r) (hrs : ∀ r' ∈ rs, WF r') :
    through 0x3E (streamOf render1 (r :: rs)) = afterMark render1 r ++ nextMark rs ∧
    after 0x3E (streamOf render1 (r :: rs)) = streamOf render1 rs := by
  have hb := (F.plain r h).1
  cases rs with
  | nil =>
    simp only [streamOf, List.flatMap_nil, List.append_nil, nextMark]
    exact ⟨through_eq_self_of_not_mem _ _ hb, after_eq_nil_of_not_mem _ _ hb⟩
  | cons r2 rs' =>
    simp only [streamOf, nextMark, List.flatMap_cons]
    rw [F.head r2 (hrs r2 List.mem_cons_self)]
    exact split_append_cons _ hb _

theorem roundTrip_of (F : FormatOK parse render1 expect WF) (grow : Nat → Nat → Nat → Nat)
    (sched : List Nat) (rs : List src) (hwf : ∀ r ∈ rs, WF r) :
    outcomes (next parse grow) (rs.length + 1) (new grow sched (rs.flatMap render1))
      = rs.map (fun r => Outcome.record (expect r)) ++ [Outcome.done] := by
  -- the `>` of the next motif is pending, the rest of the file is still in the stream
  refine outcomes_of_sim _ expect (fun rs s => (∀ r ∈ rs, WF r) ∧ Inv s ∧
    s.pending = nextMark rs ∧ s.data = streamOf render1 rs) ?_ ?_ rs _ ⟨hwf, new_inv grow sched _, ?_⟩
  · intro r rs s ⟨hwf, hinv, hp, hd⟩
    have hr : WF r := hwf r List.mem_cons_self
    have hrs : ∀ r' ∈ rs, WF r' := fun r' hr' => hwf r' (List.mem_cons_of_mem _ hr')
    obtain ⟨ht, ha⟩ := through_stream F r rs hr hrs
    rw [← hd] at ht ha
    have hmark := nextMark_cases rs
    obtain ⟨h1, h2, h3, h4⟩ := next_eq_step parse grow s hinv
    have hstep := step_success (parse := parse) (p := s.pending) (d := s.data) (rec := expect r)
      (by rw [hp, ht, F.head r hr]; rfl)
      (by
        rw [F.head r hr, List.cons_append, validUtf8_cons, if_pos (by decide),
          validUtf8_append _ _ (F.plain r hr).2]
        rcases hmark with h | h <;> rw [h] <;> decide)
      (by rw [ht]; intro e; exact F.ne r hr (List.append_eq_nil_iff.mp e).1)
      (F.parse_ok r hr _ hmark)
    rw [hstep] at h1 h3
    exact ⟨h1, hrs, h2, h3, by rw [h4, ha]⟩
  · intro s ⟨_, hinv, hp, hd⟩
    rw [(next_eq_step parse grow s hinv).1, hp, hd]
    exact step_done parse
  · cases rs with
    | nil => simp only [State.pending, new, readUntil_fst, readUntil_snd]; exact ⟨rfl, rfl⟩
    | cons r rs' =>
      rw [List.flatMap_cons, F.head r (hwf r List.mem_cons_self)]
      simp only [State.pending, new, readUntil_fst, readUntil_snd]
      exact ⟨rfl, rfl⟩

end Generic

/-! ### the count lines -/

def moreCounts (xs : List Nat) : Bytes := xs.flatMap fun x => 0x20 :: digits x

theorem renderCounts_cons (x : Nat) (xs : List Nat) : renderCounts (x :: xs) = digits x ++ moreCounts xs := by
  induction xs generalizing x with
  | nil => simp [renderCounts, moreCounts]
  | cons y ys ih =>
    simp only [renderCounts]
    rw [ih y]
    rfl

theorem moreCounts_startsNot_digit (xs : List Nat) (e : UInt8) (he : isDigit e = false) (rest : Bytes) :
    StartsNot isDigit (moreCounts xs ++ e :: rest) := by
  cases xs with
  | nil => simpa [moreCounts, StartsNot] using he
  | cons x xs => simp only [moreCounts, List.flatMap_cons, List.cons_append, StartsNot]; decide

theorem space1_newline (rest : Bytes) : space1 (0x0A :: rest) = .err := by
  rfl

theorem u32_count (x : Nat) (hx : x < 4294967296) (xs : List Nat) (e : UInt8) (hed : isDigit e = false)
    (rest : Bytes) :
    u32 (digits x ++ (moreCounts xs ++ e :: rest)) = .ok (moreCounts xs ++ e :: rest) x :=
  uint_digits _ x hx _ (moreCounts_startsNot_digit xs e hed rest)

theorem sepLoop_counts (xs : List Nat) (hx : ∀ x ∈ xs, x < 4294967296) (e : UInt8)
    (hes : isSpace e = false) (hed : isDigit e = false) (rest : Bytes) :
    ∀ acc : List Nat, sepLoop space1 u32 (moreCounts xs ++ e :: rest) acc
      = .ok (e :: rest) (acc.reverse ++ xs) := by
  induction xs with
  | nil =>
    intro acc
    rw [sepLoop]
    simp [moreCounts, space1, hes]
  | cons x xs ih =>
    intro acc
    have hcons : moreCounts (x :: xs) ++ e :: rest = 0x20 :: (digits x ++ (moreCounts xs ++ e :: rest)) := by
      simp [moreCounts]
    rw [hcons, sepLoop, space1_blank _ (digits_startsNot_space x _)]
    simp only [u32_count x (hx x List.mem_cons_self) xs e hed rest]
    rw [ih (fun y hy => hx y (List.mem_cons_of_mem _ hy)) (x :: acc)]
    simp

theorem sepList0_render (xs : List Nat) (hx : ∀ x ∈ xs, x < 4294967296) (e : UInt8)
    (hes : isSpace e = false) (hed : isDigit e = false) (rest : Bytes) :
    sepList0 space1 u32 (renderCounts xs ++ e :: rest) = .ok (e :: rest) xs := by
  cases xs with
  | nil => simp [renderCounts, sepList0, u32, uint, hed]
  | cons x xs =>
    rw [renderCounts_cons, List.append_assoc]
    simp only [sepList0, u32_count x (hx x List.mem_cons_self) xs e hed rest]
    rw [sepLoop_counts xs (fun y hy => hx y (List.mem_cons_of_mem _ hy)) e hes hed rest [x]]
    rfl

theorem space1_renderCounts (xs : List Nat) (e : UInt8) (hes : isSpace e = false) (rest : Bytes) :
    space1 (renderCounts xs ++ e :: rest) = .err := by
  cases xs with
  | nil => simp [renderCounts, space1, hes]
  | cons x xs =>
    rw [renderCounts_cons, List.append_assoc]
    have := digits_startsNot_space x (moreCounts xs ++ e :: rest)
    cases hd : digits x ++ (moreCounts xs ++ e :: rest) with
    | nil => rfl
    | cons b bs => rw [hd] at this; simp only [StartsNot] at this; simp [space1, this]

theorem counts_render (xs : List Nat) (hx : ∀ x ∈ xs, x < 4294967296) (rest : Bytes) :
    counts (renderCounts xs ++ 0x0A :: rest) = .ok (0x0A :: rest) xs := by
  exact preceded_eval (opt_err (space1_renderCounts xs 0x0A (by decide) rest))
    (sepList0_render xs hx 0x0A (by decide) (by decide) rest)

theorem matrixColumn_render (xs : List Nat) (hx : ∀ x ∈ xs, x < 4294967296) (rest : Bytes) :
    matrixColumn (renderCounts xs ++ 0x0A :: rest) = .ok rest xs :=
  terminated_eval (counts_render xs hx rest) (lineEnding_lf rest)

/-! ### the header line -/

def descTail : Option Bytes → Bytes
  | some d => 0x20 :: d
  | none => []

theorem renderHeader_eq (id : Bytes) (d : Option Bytes) :
    renderHeader id d = 0x3E :: (id ++ (descTail d ++ [0x0A])) := by
  cases d <;> simp [renderHeader, descTail]

namespace WFHeader

variable {id d : Bytes} {od : Option Bytes}

theorem id_bytes (h : WFHeader id od) : ∀ b ∈ id, isAsciiWs b = false ∧ b ≠ 0x3E := h.1
theorem id_utf8 (h : WFHeader id od) : validUtf8 id = true := h.2.1
theorem desc_ne (h : WFHeader id (some d)) : d ≠ [] := h.2.2.1
theorem desc_trim (h : WFHeader id (some d)) : trim d = d := h.2.2.2.1
theorem desc_bytes (h : WFHeader id (some d)) : ∀ b ∈ d, b ≠ 0x0A ∧ b ≠ 0x3E := h.2.2.2.2.1
theorem desc_utf8 (h : WFHeader id (some d)) : validUtf8 d = true := h.2.2.2.2.2

end WFHeader

theorem descTail_no_lf {id : Bytes} {d : Option Bytes} (h : WFHeader id d) :
    (0x0A : UInt8) ∉ descTail d := by
  cases d with
  | none => exact List.not_mem_nil
  | some d' =>
    intro hm
    rcases List.mem_cons.mp hm with hm | hm
    · cases hm
    · exact (h.desc_bytes _ hm).1 rfl

theorem descTail_stops_id (d : Option Bytes) (rest : Bytes) :
    StartsNot (fun b => !isAsciiWs b) (descTail d ++ 0x0A :: rest) := by
  cases d with
  | none => exact (by decide : (!isAsciiWs 0x0A) = false)
  | some d' => exact (by decide : (!isAsciiWs 0x20) = false)

theorem descOf_descTail {id : Bytes} {d : Option Bytes} (h : WFHeader id d) :
    descOf (descTail d) = d := by
  cases d with
  | none => rfl
  | some d' =>
    have htrim := h.desc_trim
    have htrim' : trim (0x20 :: d') = d' := by
      unfold trim at htrim ⊢
      rw [trimStart_blank]; exact htrim
    have : d'.isEmpty = false := by
      cases d' with
      | nil => exact absurd rfl h.desc_ne
      | cons _ _ => rfl
    simp [descTail, descOf, htrim', this]

theorem header_render (id : Bytes) (d : Option Bytes) (h : WFHeader id d) (rest : Bytes) :
    header (renderHeader id d ++ rest) = .ok rest (id, d) := by
  have hX : renderHeader id d ++ rest = [0x3E] ++ (id ++ (descTail d ++ 0x0A :: rest)) := by
    simp only [renderHeader_eq, List.cons_append, List.append_assoc, List.nil_append]
  have h1 := takeWhile_eval (fun b => !isAsciiWs b) id _ (fun b hb => by simp [(h.id_bytes b hb).1])
    (descTail_stops_id d rest)
  rw [hX]
  unfold header
  rw [pmap_eval (pair_eval (preceded_eval (tag_eval [0x3E] _) h1)
    (pair_eval (takeUntilByte_eval 0x0A _ rest (descTail_no_lf h)) (lineEnding_lf rest)))]
  simp [descOf_descTail h]

/-! ### the matrix -/

theorem buildLoop_step {K : Nat} (m m' : Mat Nat K) (cs : List Nat) (s : Nat)
    (rest : List (List Nat × Nat)) (hlen : cs.length = m.rows) (h : fillColumn m s 0 cs = some m') :
    buildLoop m ((cs, s) :: rest) = buildLoop m' rest := by
  simp [buildLoop, hlen, h]

theorem buildMatrix_render (r : Src) (hc : r.c.length = r.a.length) (hg : r.g.length = r.a.length)
    (ht : r.t.length = r.a.length) : buildMatrix [r.a, r.c, r.g, r.t] = .ok (expect r).matrix := by
  let m0 : Mat Nat dna.K := (Mat.empty : Mat Nat dna.K).resize r.a.length 0
  have h0 : m0.rows = r.a.length := by simp [m0]
  obtain ⟨m1, f1, r1⟩ := fillColumn_zero (K := dna.K) (s := 0) (by decide) h0.symm
  have h1 : m1.rows = r.a.length := r1.trans h0
  obtain ⟨m2, f2, r2⟩ := fillColumn_zero (K := dna.K) (s := 1) (by decide) (hc.trans h1.symm)
  have h2 : m2.rows = r.a.length := r2.trans h1
  obtain ⟨m3, f3, r3⟩ := fillColumn_zero (K := dna.K) (s := 3) (by decide) (hg.trans h2.symm)
  have h3 : m3.rows = r.a.length := r3.trans h2
  obtain ⟨m4, f4, r4⟩ := fillColumn_zero (K := dna.K) (s := 2) (by decide) (ht.trans h3.symm)
  have h4 : m4.rows = r.a.length := r4.trans h3
  have e : buildMatrix [r.a, r.c, r.g, r.t] = .ok m4 := by
    unfold buildMatrix
    simp only [symbols_eq, List.zip_cons_cons, List.zip_nil_right]
    rw [buildLoop_step m0 m1 _ _ _ h0.symm f1, buildLoop_step m1 m2 _ _ _ (hc.trans h1.symm) f2,
      buildLoop_step m2 m3 _ _ _ (hg.trans h2.symm) f3, buildLoop_step m3 m4 _ _ _ (ht.trans h3.symm) f4]
    rfl
  rw [e]
  refine congrArg Built.ok (Mat.ext ?_ ?_)
  · rw [h4, expect, Mat.rows_ofFn]
  · intro i j hi hj
    rw [h4] at hi
    have hm0get : m0.get i j = 0 := by simp [m0, hi, hj]
    -- both sides become chains of `if`s on `j` alone, in different orders
    rw [fillColumn_get 2 r.t m3 m4 f4 i j (ht ▸ hi), fillColumn_get 3 r.g m2 m3 f3 i j (hg ▸ hi),
      fillColumn_get 1 r.c m1 m2 f2 i j (hc ▸ hi), fillColumn_get 0 r.a m0 m1 f1 i j hi, hm0get,
      expect, Mat.get_ofFn, if_pos (And.intro hi hj), dna_fromAscii_A, dna_fromAscii_C, dna_fromAscii_G,
      dna_fromAscii_T]
    rcases j with _ | _ | _ | _ | _ | j
    · rfl
    · rfl
    · rfl
    · rfl
    · rfl
    · exact absurd hj (Nat.not_lt.mpr (Nat.le_add_left 5 j))

/-- the four count lines in front of `rest` -/
def countLines (r : Src) (rest : Bytes) : Bytes :=
  renderCounts r.a ++ 0x0A :: (renderCounts r.c ++ 0x0A :: (renderCounts r.g ++ 0x0A ::
    (renderCounts r.t ++ 0x0A :: rest)))

theorem render1_append (r : Src) (rest : Bytes) :
    render1 r ++ rest = renderHeader r.id r.description ++ countLines r rest := by
  simp [render1, countLines]

theorem matrix_render (r : Src) (h : WF r) (rest : Bytes) :
    matrix (countLines r rest) = .ok rest (.ok (expect r).matrix) := by
  obtain ⟨-, hc, hg, ht, hx⟩ := h
  obtain ⟨hx, ht'⟩ := List.forall_mem_append.mp hx
  obtain ⟨hx, hg'⟩ := List.forall_mem_append.mp hx
  obtain ⟨ha', hc'⟩ := List.forall_mem_append.mp hx
  unfold matrix built countLines
  rw [pair_eval (matrixColumn_render r.a ha' _)
    (pair_eval (matrixColumn_render r.c hc' _)
      (pair_eval (matrixColumn_render r.g hg' _) (matrixColumn_render r.t ht' _)))]
  simp only [buildMatrix_render r hc hg ht]

theorem record_render (r : Src) (h : WF r) (rest : Bytes) :
    record (render1 r ++ rest) = .ok rest (.ok (expect r)) := by
  rw [render1_append]
  unfold record
  rw [pmap_eval (pair_eval (header_render r.id r.description h.1 _) (matrix_render r h rest))]
  rfl

theorem plain_renderCounts (xs : List Nat) : Plain 0x3E (renderCounts xs) := by
  have hd : ∀ n, Plain 0x3E (digits n) := fun n => plain_digits (by decide) fun _ => digits_isDigit n
  cases xs with
  | nil => exact .nil
  | cons x xs =>
    rw [renderCounts_cons]
    exact (hd x).append (.flatMap fun y _ => .cons (by decide) (by decide) (hd y))

theorem plain_countLines (r : Src) : Plain 0x3E (countLines r []) :=
  have line (xs : List Nat) {l : Bytes} (hl : Plain 0x3E l) : Plain 0x3E (renderCounts xs ++ 0x0A :: l) :=
    (plain_renderCounts xs).append (.cons (by decide) (by decide) hl)
  line _ (line _ (line _ (line _ .nil)))

theorem renderHeader_plain (id : Bytes) (d : Option Bytes) (h : WFHeader id d) :
    Plain 0x3E (id ++ (descTail d ++ [0x0A])) := by
  have hdt : Plain 0x3E (descTail d) := by
    cases d with
    | none => exact .nil
    | some d' => exact .cons (by decide) (by decide) ⟨fun hm => (h.desc_bytes _ hm).2 rfl, h.desc_utf8⟩
  exact .append ⟨fun hm => (h.id_bytes _ hm).2 rfl, h.id_utf8⟩ (hdt.append (.ascii (by decide)))

theorem formatOK : FormatOK record render1 expect WF := by
  have hbody : ∀ r, render1 r = 0x3E :: (r.id ++ (descTail r.description ++ [0x0A]) ++ countLines r []) := by
    intro r
    rw [← List.append_nil (render1 r), render1_append, renderHeader_eq]
    rfl
  exact {
    head := fun r h => by rw [afterMark, hbody r]; rfl
    plain := fun r h => by
      rw [afterMark, hbody r]
      exact (renderHeader_plain _ _ h.1).append (plain_countLines r)
    ne := fun r h => by rw [afterMark, hbody r]; simp
    parse_ok := fun r h rest _ => record_render r h rest }

end Jaspar
end LMV
