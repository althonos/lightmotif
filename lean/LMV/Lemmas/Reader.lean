/-
  LMV.Lemmas.Reader — the one induction behind every round trip: a reader whose state stays related
  to the records still to come returns them one by one, then the end.  Core Lean only.
-/
import LMV.Lemmas.Consumer

namespace LMV
namespace Io

variable {σ ρ src : Type}

theorem outcomes_of_sim (step : σ → Outcome ρ × σ) (expect : src → ρ) (R : List src → σ → Prop)
    (hcons : ∀ r rs s, R (r :: rs) s → (step s).1 = .record (expect r) ∧ R rs (step s).2)
    (hnil : ∀ s, R [] s → (step s).1 = .done) :
    ∀ (rs : List src) (s : σ), R rs s →
      outcomes step (rs.length + 1) s = rs.map (fun r => Outcome.record (expect r)) ++ [Outcome.done]
  | [], s, h => by simp [outcomes, hnil s h]
  | r :: rs, s, h => by
    obtain ⟨h1, h2⟩ := hcons r rs s h
    simp [outcomes, h1, outcomes_of_sim step expect R hcons hnil rs _ h2]

end Io
end LMV
