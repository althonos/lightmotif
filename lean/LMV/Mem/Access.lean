/-
  LMV.Mem.Access — vocabulary of the memory-access models (C06).

  An unsafe kernel is modelled by the LIST OF ACCESSES it performs, as a function of the sizes of
  its arguments only: (buffer, byte offset from the start of the buffer, width in bytes,
  read | write, alignment the instruction requires).  A buffer is the LIVE part of an allocation
  (`Vec` length × element size, or a stack array); its base address is assumed to honour the
  alignment of its element type (for `DenseMatrix` rows: `repr(align(32))`), so an access is
  aligned iff its offset is.  Core Lean only.
-/
namespace LMV
namespace Mem

inductive Buf
  | text     -- `seq: &[u8]`, the ASCII text given to an encoder
  | dst      -- `dst: &mut [A::Symbol]`, the encoder's output (1 byte per symbol)
  | sym      -- `seq: &[A::Symbol]`, the symbol buffer given to the striping kernel
  | seqmat   -- the `DenseMatrix<A::Symbol, C>` of a striped sequence (rows × rowBytes)
  | pssm     -- the `DenseMatrix<T, A::K>` of a scoring matrix
  | scores   -- the `DenseMatrix<T, C>` of a `StripedScores`
  | stack    -- the kernel's own stack array (`[u32; 32]`, `[f32; 8]`, `GenericArray<u32, C>`, …)
  | mat      -- a `DenseMatrix` being filled / raveled
deriving DecidableEq, Repr

def Buf.name : Buf → String
  | .text => "text" | .dst => "dst" | .sym => "sym" | .seqmat => "seqmat" | .pssm => "pssm"
  | .scores => "scores" | .stack => "stack" | .mat => "mat"

inductive Rw | read | write
deriving DecidableEq, Repr

structure Access where
  buf : Buf
  off : Nat
  width : Nat
  rw : Rw
  /-- alignment the instruction requires of the ADDRESS (1: none) -/
  align : Nat
deriving DecidableEq, Repr

/-- size in bytes of the live part of every buffer -/
abbrev Sizes := Buf → Nat

/-- the access lies inside its buffer and is aligned.  `0 < a.align` fails only for `Access.unknown`
    (below): that is how a call the model does not understand breaks the theorems. -/
def Access.InBounds (sz : Sizes) (a : Access) : Prop :=
  a.off + a.width ≤ sz a.buf ∧ 0 < a.align ∧ a.off % a.align = 0

instance (sz : Sizes) (a : Access) : Decidable (a.InBounds sz) := by
  unfold Access.InBounds; infer_instance

def Safe (sz : Sizes) (l : List Access) : Prop := ∀ a ∈ l, a.InBounds sz

instance (sz : Sizes) (l : List Access) : Decidable (Safe sz l) := by
  unfold Safe; infer_instance

/-- the first offending access, if any (what the driver prints) -/
def firstBad (sz : Sizes) (l : List Access) : Option Access :=
  l.find? fun a => !decide (a.InBounds sz)

theorem firstBad_none_iff (sz : Sizes) (l : List Access) : firstBad sz l = none ↔ Safe sz l := by
  simp only [firstBad, Safe, List.find?_eq_none, Bool.not_eq_true', decide_eq_false_iff_not, Decidable.not_not]

theorem Safe_nil (sz : Sizes) : Safe sz [] := List.forall_mem_nil _

theorem Safe_append {sz : Sizes} {l₁ l₂ : List Access} :
    Safe sz (l₁ ++ l₂) ↔ Safe sz l₁ ∧ Safe sz l₂ := List.forall_mem_append

theorem Safe_flatMap {α : Type} {sz : Sizes} {l : List α} {f : α → List Access} :
    Safe sz (l.flatMap f) ↔ ∀ x ∈ l, Safe sz (f x) := List.forall_mem_flatMap

theorem Safe_map {α : Type} {sz : Sizes} {l : List α} {f : α → Access} :
    Safe sz (l.map f) ↔ ∀ x ∈ l, (f x).InBounds sz := List.forall_mem_map

/-- one memory-touching intrinsic call of a kernel, as extracted from the source: the intrinsic,
    the pointer variable of its address argument, the constant offset (in elements of the pointer's
    type) or the name of a symbolic one, the number of enclosing loops -/
structure MemCall where
  intr : String
  ptr : String
  off : Nat
  sym : String
  depth : Nat
deriving DecidableEq, Repr

/-- a pointer initialisation / advance statement of a kernel (expression text, loop depth).  No
    model interprets these: the regenerated `*Init` / `*Step` tables are compared literally with what
    LMV/Mem/Kernels.lean assumes about each pointer (`C06.pointer_walks`). -/
structure PtrStep where
  ptr : String
  expr : String
  depth : Nat
deriving DecidableEq, Repr

/-- what an intrinsic does to memory: (width in bytes, required alignment, read | write); from the
    Intel intrinsics guide, except the alignment 4 of `_mm_load1_ps`: Intel requires none, but Rust's
    `_mm_load1_ps(p: *const f32)` dereferences `p`, which must be aligned for `f32`.
    `none`: not a plain load/store (the gather is modelled separately). -/
def intrinsic (name : String) : Option (Nat × Nat × Rw) :=
  if name = "_mm256_loadu_si256" then some (32, 1, .read)
  else if name = "_mm256_storeu_si256" then some (32, 1, .write)
  else if name = "_mm256_storeu_ps" then some (32, 1, .write)
  else if name = "_mm256_load_si256" then some (32, 32, .read)
  else if name = "_mm256_load_ps" then some (32, 32, .read)
  else if name = "_mm256_stream_si256" then some (32, 32, .write)
  else if name = "_mm256_stream_ps" then some (32, 32, .write)
  else if name = "_mm_loadu_si128" then some (16, 1, .read)
  else if name = "_mm_storeu_si128" then some (16, 1, .write)
  else if name = "_mm_load_si128" then some (16, 16, .read)
  else if name = "_mm_load_ps" then some (16, 16, .read)
  else if name = "_mm_stream_ps" then some (16, 16, .write)
  else if name = "_mm_load1_ps" then some (4, 4, .read)
  else none

/-- an access that is never `InBounds` (alignment 0): what a call the model does not understand
    turns into, so that an unknown intrinsic in a regenerated table breaks the theorems instead of
    vanishing -/
def Access.unknown : Access := ⟨.stack, 0, 0, .read, 0⟩

/-- the access of one extracted call, given the buffer and byte offset its pointer designates and
    the size of the pointer's element type -/
def MemCall.access (c : MemCall) (buf : Buf) (base esz : Nat) : Access :=
  match intrinsic c.intr with
  | some (w, al, rw) => ⟨buf, base + c.off * esz, w, rw, al⟩
  | none => Access.unknown

end Mem
end LMV
