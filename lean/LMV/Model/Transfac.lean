/-
  LMV.Model.Transfac — the TRANSFAC parser and reader, `Record::to_counts`, and the renderer of
  well-formed TRANSFAC files.

  mirrors: lightmotif-io/src/transfac/parse.rs::{parse_version, parse_line, parse_alphabet,
             parse_element, parse_row, parse_tag, parse_reference_number, parse_datekind,
             parse_date, parse_reference, parse_record}
           lightmotif-io/src/transfac/reader.rs::{Reader::new, Iterator for Reader}
           lightmotif-io/src/transfac/mod.rs::Record::to_counts

  Only the fields a caller can observe are kept in the record (`id`, `accession`, `name`,
  `description`, `data`); the lines that fill the unobservable ones (dates, references, sites,
  factors, comments, copyright, `BA`) are parsed all the same, because a line that does not parse
  fails the record.
-/
import LMV.Model.Jaspar
import LMV.Model.Uniprobe
import LMV.Lemmas.Stream

namespace LMV
namespace Transfac

open Io Nom

variable {α : Type}

/-- `parse_line`: through the first '\n' (`memchr`); an input without '\n' is an error -/
def parseLine : Parser Bytes := fun i =>
  if i.contains 0x0A then .ok (after 0x0A i) (through 0x0A i) else .err

def t (a b : UInt8) : Bytes := [a, b]

/-- `preceded(tag(xx), parse_line)` -/
def tagLine (a b : UInt8) : Parser Bytes := preceded (tag (t a b)) parseLine

/-- `parse_version` -/
def parseVersion : Parser Bytes := tagLine 0x56 0x56

/-- `parse_alphabet` (repaired: `character::complete::space1`; was the streaming variant).
    `sp` is the `space1` in use, a parameter so that the defect can be stated on the model. -/
def parseAlphabetWith (sp : Parser Bytes) (A : Alphabet) : Parser (List Nat) :=
  delimited (alt (tag (t 0x50 0x4F)) (tag (t 0x50 0x30)))
    (preceded sp (sepList1 sp (symbol A))) lineEnding

def parseAlphabet (A : Alphabet) : Parser (List Nat) := parseAlphabetWith space1 A

/-- `parse_row(k)`: `delimited(u32, count(delimited(space0, float, space0), k), parse_line)` -/
def parseRow (conv : Bytes → Option α) (k : Nat) : Parser (List α) :=
  delimited u32 (count (delimited space0 (float conv) space0) k) parseLine

/-- the tags `parse_tag` accepts -/
def knownTags : List Bytes :=
  [t 0x41 0x43, t 0x42 0x41, t 0x42 0x53, t 0x42 0x46, t 0x43 0x43, t 0x43 0x4F, t 0x44 0x45,
   t 0x44 0x54, t 0x49 0x44, t 0x4E 0x41, t 0x50 0x30, t 0x50 0x4F, t 0x52 0x4E, t 0x58 0x58,
   t 0x2F 0x2F]

/-- `parse_tag`: two characters that form a known tag -/
def parseTag : Parser Bytes := fun i =>
  match takeChars 2 i with
  | .ok r tg => if knownTags.contains tg then .ok r tg else .err
  | e => e

/-- `parse_reference_number` -/
def parseReferenceNumber : Parser Unit := fun i =>
  match preceded (terminated (tag (t 0x52 0x4E)) space0) (delimited (char 0x5B) u32 (char 0x5D)) i with
  | .ok rest _ =>
    match rest with
    | 0x3B :: _ =>
      match delimited (char 0x3B) (takeTill (· = 0x2E)) (char 0x2E) rest with
      | .ok rest' _ => (parseLine rest').map fun _ => ()
      | .err => .err | .fail => .fail | .incomplete => .incomplete
    | _ => (parseLine i).map fun _ => ()
  | .err => .err | .fail => .fail | .incomplete => .incomplete

/-- `parse_datekind` -/
def parseDatekind : Parser Bytes :=
  alt (tag [0x63, 0x72, 0x65, 0x61, 0x74, 0x65, 0x64]) (tag [0x75, 0x70, 0x64, 0x61, 0x74, 0x65, 0x64])

/-- `parse_date` -/
def parseDate : Parser Unit :=
  pmap
    (pair (terminated (tag (t 0x44 0x54)) space0)
      (pair (terminated u8 (char 0x2E))
        (pair (terminated u8 (char 0x2E))
          (pair u16
            (pair space0
              (pair (delimited (char 0x28) parseDatekind (char 0x29))
                (pair (delimited (char 0x3B) (preceded space0 (takeTill (· = 0x2E))) (char 0x2E))
                  parseLine)))))))
    fun _ => ()

/-- one line of the `loop` of `parse_reference`: `RX`, `RA`, `RL`, `RT` lines continue, anything
    else ends the reference (`none`); fewer than two characters left is an error (`take(2)?`) -/
def referenceLine : Parser (Option Unit) := fun i =>
  match takeChars 2 i with
  | .ok _ tg =>
    if tg = t 0x52 0x58 then
      match preceded (preceded (terminated (tag (t 0x52 0x58)) space0)
                (terminated (tag [0x50, 0x55, 0x42, 0x4D, 0x45, 0x44, 0x3A]) space0))
              (terminated (takeTill (· = 0x2E)) (char 0x2E)) i with
      | .ok rest _ => (parseLine rest).map fun _ => some ()
      | .err => .err | .fail => .fail | .incomplete => .incomplete
    else if tg = t 0x52 0x41 ∨ tg = t 0x52 0x4C ∨ tg = t 0x52 0x54 then
      (preceded (tag tg) parseLine i).map fun _ => some ()
    else .ok i none
  | .err => .err | .fail => .fail | .incomplete => .incomplete

/-- the `loop` of `parse_reference`; every continuing line consumes input (the guard is dead code,
    cf. `Transfac.referenceLine_lt`) -/
def referenceLoop (i : Bytes) : PRes Unit :=
  match referenceLine i with
  | .ok rest (some _) => if rest.length < i.length then referenceLoop rest else .err
  | .ok rest none => .ok rest ()
  | .err => .err | .fail => .fail | .incomplete => .incomplete
termination_by i.length

/-- `parse_reference` -/
def parseReference : Parser Unit := fun i =>
  match parseReferenceNumber i with
  | .ok rest _ => referenceLoop rest
  | .err => .err | .fail => .fail | .incomplete => .incomplete

structure TRecord (α : Type) (K : Nat) where
  id : Option Bytes := none
  accession : Option Bytes := none
  name : Option Bytes := none
  description : Option Bytes := none
  data : Option (Mat α K) := none

/-- `for (s, &c) in symbols.iter().zip(count.iter()) { matrix[i][s.as_index()] = c }` -/
def fillRow {K : Nat} (m : Mat α K) (i : Nat) : List Nat → List α → Option (Mat α K)
  | s :: ss, c :: cs => if i < m.rows ∧ s < K then fillRow (m.set i s c) i ss cs else none
  | _, _ => some m

/-- `for (i, count) in counts.iter().enumerate() { … }` -/
def fillRows {K : Nat} (m : Mat α K) (symbols : List Nat) : Nat → List (List α) → Option (Mat α K)
  | _, [] => some m
  | i, r :: rs =>
    match fillRow m i symbols r with
    | some m' => fillRows m' symbols (i + 1) rs
    | none => none

/-- what one iteration of the `loop` of `parse_record` does -/
inductive Step (α : Type) (K : Nat) where
  | continue (rest : Bytes) (r : TRecord α K)
  | finish (rest : Bytes) (r : TRecord α K)
  | error (e : PRes Unit)      -- a nom error (never `ok`)
  | panic (site : String)

/-- `let (rest, v) = p(input)?; k(rest, v)`: a nom error leaves the record parser -/
def stepOf {β : Type} (K : Nat) (p : PRes β) (k : Bytes → β → Step α K) : Step α K :=
  match p with
  | .ok rest v => k rest v
  | .err => .error .err
  | .fail => .error .fail
  | .incomplete => .error .incomplete

/-- one iteration of `loop { match parse_tag(input)?.1 { … } }` -/
def recordStep (A : Alphabet) (conv : Bytes → Option α) (zero : α) (sp : Parser Bytes)
    (r : TRecord α A.K) (i : Bytes) : Step α A.K :=
  stepOf A.K (parseTag i) fun _ tg =>
    if tg = t 0x41 0x43 then
      stepOf A.K (tagLine 0x41 0x43 i) fun rest line => .continue rest { r with accession := some (trim line) }
    else if tg = t 0x42 0x41 then stepOf A.K (tagLine 0x42 0x41 i) fun rest _ => .continue rest r
    else if tg = t 0x42 0x53 then stepOf A.K (tagLine 0x42 0x53 i) fun rest _ => .continue rest r
    else if tg = t 0x42 0x46 then stepOf A.K (tagLine 0x42 0x46 i) fun rest _ => .continue rest r
    else if tg = t 0x43 0x43 then
      stepOf A.K (many1 (tagLine 0x43 0x43) i) fun rest _ => .continue rest r
    else if tg = t 0x43 0x4F then stepOf A.K (tagLine 0x43 0x4F i) fun rest _ => .continue rest r
    else if tg = t 0x44 0x45 then
      stepOf A.K (tagLine 0x44 0x45 i) fun rest line => .continue rest { r with description := some (trim line) }
    else if tg = t 0x44 0x54 then stepOf A.K (parseDate i) fun rest _ => .continue rest r
    else if tg = t 0x49 0x44 then
      stepOf A.K (tagLine 0x49 0x44 i) fun rest line => .continue rest { r with id := some (trim line) }
    else if tg = t 0x4E 0x41 then
      stepOf A.K (tagLine 0x4E 0x41 i) fun rest line => .continue rest { r with name := some (trim line) }
    else if tg = t 0x50 0x30 ∨ tg = t 0x50 0x4F then
      stepOf A.K (parseAlphabetWith sp A i) fun rest symbols =>
        stepOf A.K (many1 (parseRow conv symbols.length) rest) fun rest' counts =>
          match fillRows ((Mat.empty : Mat α A.K).resize counts.length zero) symbols 0 counts with
          | some m => .continue rest' { r with data := some m }
          | none => .panic "parse.rs: matrix[i][s.as_index()]"
    else if tg = t 0x52 0x4E then stepOf A.K (parseReference i) fun rest _ => .continue rest r
    else if tg = t 0x2F 0x2F then
      stepOf A.K (preceded (tag (t 0x2F 0x2F)) (alt parseLine eof) i) fun rest _ => .finish rest r
    else if tg = t 0x58 0x58 then stepOf A.K (parseLine i) fun rest _ => .continue rest r
    else .panic "parse.rs: unreachable!() in parse_record"

/-- result of `parse_record` -/
inductive RecRes (α : Type) (K : Nat) where
  | ok (rest : Bytes) (r : TRecord α K)
  | error (e : PRes Unit)
  | panic (site : String)

/-- the `loop` of `parse_record`; every iteration consumes input (the guard is dead code, cf.
    `Transfac.recordStep_lt`) -/
def recordLoop (A : Alphabet) (conv : Bytes → Option α) (zero : α) (sp : Parser Bytes)
    (r : TRecord α A.K) (i : Bytes) : RecRes α A.K :=
  match recordStep A conv zero sp r i with
  | .continue rest r' =>
    if rest.length < i.length then recordLoop A conv zero sp r' rest else .error .err
  | .finish rest r' => .ok rest r'
  | .error e => .error e
  | .panic site => .panic site
termination_by i.length

def parseRecordWith (A : Alphabet) (conv : Bytes → Option α) (zero : α) (sp : Parser Bytes)
    (i : Bytes) : RecRes α A.K :=
  recordLoop A conv zero sp {} i

/-- `parse_record` -/
def parseRecord (A : Alphabet) (conv : Bytes → Option α) (zero : α) (i : Bytes) : RecRes α A.K :=
  parseRecordWith A conv zero space1 i

/-! ### reader.rs -/

structure State where
  buffer : Bytes
  last : Nat
  error : Option ErrKind
  data : Bytes
  sched : List Nat

/-- `self.buffer[self.last..].starts_with("//")`; `none` is the panic of slicing a `String` past
    its end or inside a character -/
def tailStartsSlashes (buffer : Bytes) (last : Nat) : Option Bool :=
  if buffer.length < last then none
  else match buffer.drop last with
    | [] => some false
    | b :: r => if isCont b then none else some ((t 0x2F 0x2F).isPrefixOf (b :: r))

/-- the `while !end` loop of `Reader::new`: `Ok(n) => { end = buffer[last..].starts_with("//");
    if !end { last += n } }` -/
inductive Fill where
  | ok (buffer : Bytes) (last : Nat) (error : Option ErrKind) (data : Bytes) (sched : List Nat)
  | panic (site : String)

theorem readLine_lt (sched : List Nat) (data l : Bytes) (h : (readLine sched data).1 = some l)
    (hl : l ≠ []) : (readLine sched data).2.1.length < data.length := readLine_rest_lt h hl

def newLoop (buffer : Bytes) (last : Nat) (sched : List Nat) (data : Bytes) : Fill :=
  match h : (readLine sched data).1 with
  | none => .ok buffer last (some .io) (readLine sched data).2.1 (readLine sched data).2.2
  | some l =>
    if hl : l = [] then .ok buffer last none (readLine sched data).2.1 (readLine sched data).2.2
    else
      match tailStartsSlashes (buffer ++ l) last with
      | none => .panic "reader.rs: buffer[last..]"
      | some true => .ok (buffer ++ l) last none (readLine sched data).2.1 (readLine sched data).2.2
      | some false =>
        newLoop (buffer ++ l) (last + l.length) (readLine sched data).2.2 (readLine sched data).2.1
termination_by data.length
decreasing_by exact readLine_lt sched data l h hl

/-- `Reader::new`: read up to the first `//` line; a leading `VV` block is the version header -/
def new (sched : List Nat) (data : Bytes) : Except String State :=
  match newLoop [] 0 sched data with
  | .panic site => .error site
  | .ok buffer last error data' sched' =>
    if (t 0x56 0x56).isPrefixOf buffer then
      match parseVersion buffer with
      | .ok _ _ => .ok { buffer := [], last := 0, error := error, data := data', sched := sched' }
      | .incomplete => .error "error.rs: unreachable!() for nom::Err::Incomplete"
      | _ => .ok { buffer := buffer, last := last, error := some .nom, data := data', sched := sched' }
    else .ok { buffer := buffer, last := last, error := error, data := data', sched := sched' }

/-- the `while !end` loop of `next`: `Ok(n) => { end = buffer[last..].starts_with("//"); last += n }` -/
def nextLoop (buffer : Bytes) (last : Nat) (sched : List Nat) (data : Bytes) : Fill :=
  match h : (readLine sched data).1 with
  | none => .ok buffer last (some .io) (readLine sched data).2.1 (readLine sched data).2.2
  | some l =>
    if hl : l = [] then .ok buffer last none (readLine sched data).2.1 (readLine sched data).2.2
    else
      match tailStartsSlashes (buffer ++ l) last with
      | none => .panic "reader.rs: buffer[last..]"
      | some true =>
        .ok (buffer ++ l) (last + l.length) none (readLine sched data).2.1 (readLine sched data).2.2
      | some false =>
        nextLoop (buffer ++ l) (last + l.length) (readLine sched data).2.2 (readLine sched data).2.1
termination_by data.length
decreasing_by exact readLine_lt sched data l h hl

/-- `Iterator::next` -/
def next (A : Alphabet) (conv : Bytes → Option α) (zero : α) (s : State) :
    Outcome (TRecord α A.K) × State :=
  match s.error with
  | some e => (.error e, { s with error := none })
  | none =>
    match tailStartsSlashes s.buffer s.last with
    | none => (.panic "reader.rs: buffer[last..]", s)
    | some e0 =>
      let filled : Fill :=
        if e0 then .ok s.buffer s.last none s.data s.sched else nextLoop s.buffer s.last s.sched s.data
      match filled with
      | .panic site => (.panic site, s)
      | .ok buffer last (some k) data sched =>
        (.error k, { buffer := buffer, last := last, error := none, data := data, sched := sched })
      | .ok buffer last none data sched =>
        let s1 : State := { buffer := buffer, last := last, error := none, data := data, sched := sched }
        if buffer.isEmpty then (.done, s1)
        else
          match parseRecord A conv zero buffer with
          | .ok _ r => (.record r, { s1 with buffer := [], last := 0 })
          | .panic site => (.panic site, s1)
          | .error .incomplete => (.panic "error.rs: unreachable!() for nom::Err::Incomplete", s1)
          | .error _ => (.error .nom, s1)

/-! ### mod.rs: `Record::to_counts` -/

/-- `to_counts`: `asCount x` is `some (x.round() as u32)` when `x.round() == x`, else `none`;
    `CountMatrix::new` never fails -/
def toCounts {K : Nat} (asCount : α → Option Nat) (data : Option (Mat α K)) : Option (List (List Nat)) :=
  match data with
  | none => none
  | some m => m.toLists.mapM fun row => row.mapM asCount

/-! ### renderer of well-formed files -/

/-- the lines of a TRANSFAC record the observable fields come from, in file order (any order, any
    repetition: a later field line overrides an earlier one, as in the parser) -/
inductive Item where
  | ac (v : Bytes)
  | id (v : Bytes)
  | na (v : Bytes)
  | de (v : Bytes)
  | xx
  | matrix (syms : List Nat) (rows : List (List Bytes))   -- `P0` line and the count rows (lexemes)

def renderField (a b : UInt8) (v : Bytes) : Bytes := a :: b :: 0x20 :: 0x20 :: v ++ [0x0A]

/-- the rows `01 …`, `02 …` of a matrix block: the row number, then every lexeme followed by a blank -/
def renderRows : Nat → List (List Bytes) → Bytes
  | _, [] => []
  | i, lexs :: rest =>
    Jaspar.digits (i + 1) ++ 0x20 :: lexs.flatMap (fun l => l ++ [0x20]) ++ 0x0A :: renderRows (i + 1) rest

def renderItem (A : Alphabet) : Item → Bytes
  | .ac v => renderField 0x41 0x43 v
  | .id v => renderField 0x49 0x44 v
  | .na v => renderField 0x4E 0x41 v
  | .de v => renderField 0x44 0x45 v
  | .xx => [0x58, 0x58, 0x0A]
  | .matrix syms rows =>
    0x50 :: 0x30 :: syms.flatMap (fun s => [0x20, A.letters.getD s 0]) ++ 0x0A :: renderRows 0 rows

/-- a record: its items, then the `//` line -/
def render1 (A : Alphabet) (items : List Item) : Bytes :=
  items.flatMap (renderItem A) ++ [0x2F, 0x2F, 0x0A]

def render (A : Alphabet) (rs : List (List Item)) : Bytes := rs.flatMap (render1 A)

/-- the matrix a `P0` block must be read back as: the value of every lexeme in the row of its
    position and the column of its symbol, other columns `zero` -/
def expectData (A : Alphabet) (conv : Bytes → Option α) (zero : α) (syms : List Nat)
    (rows : List (List Bytes)) : Mat α A.K :=
  Mat.ofFn rows.length fun i j =>
    match (syms.zip (rows.getD i [])).find? (·.1 == j) with
    | some p => (conv p.2).getD zero
    | none => zero

/-- what one item contributes to the record -/
def applyItem (A : Alphabet) (conv : Bytes → Option α) (zero : α) (r : TRecord α A.K) : Item → TRecord α A.K
  | .ac v => { r with accession := some v }
  | .id v => { r with id := some v }
  | .na v => { r with name := some v }
  | .de v => { r with description := some v }
  | .xx => r
  | .matrix syms rows => { r with data := some (expectData A conv zero syms rows) }

/-- the record a list of items must be read back as -/
def expect (A : Alphabet) (conv : Bytes → Option α) (zero : α) (items : List Item) : TRecord α A.K :=
  items.foldl (applyItem A conv zero) {}

/-- a field value: starts with an ASCII non-blank character, is trimmed, has no line feed, is
    valid UTF-8 -/
def WFField (v : Bytes) : Prop :=
  (match v with
   | b :: _ => b < 0x80 ∧ isWs1 b = false
   | [] => False) ∧
  trim v = v ∧ (∀ b ∈ v, b ≠ 0x0A) ∧ validUtf8 v = true

instance (v : Bytes) : Decidable (WFField v) := by unfold WFField; cases v <;> infer_instance

/-- well-formed item -/
def WFItem (A : Alphabet) (conv : Bytes → Option α) : Item → Prop
  | .ac v => WFField v
  | .id v => WFField v
  | .na v => WFField v
  | .de v => WFField v
  | .xx => True
  | .matrix syms rows =>
    syms ≠ [] ∧ (∀ s ∈ syms, s < A.K) ∧ syms.Nodup ∧ rows ≠ [] ∧ rows.length < 4294967295 ∧
    (∀ row ∈ rows, row.length = syms.length ∧
      ∀ lex ∈ row, Uniprobe.wfLex lex = true ∧ (conv lex).isSome = true)

instance (A : Alphabet) (conv : Bytes → Option α) (it : Item) : Decidable (WFItem A conv it) := by
  cases it <;> unfold WFItem <;> infer_instance

end Transfac
end LMV
