/-
  LMV.Model.Uniprobe — the UniPROBE parser and line-at-a-time reader, and the renderer of
  well-formed UniPROBE files.

  mirrors: lightmotif-io/src/uniprobe/parse.rs::{symbol, frequencies, matrix_column, build_matrix, id}
           lightmotif-io/src/uniprobe/mod.rs::{Reader::new, Iterator for Reader}
           lightmotif/src/pwm/mod.rs::FrequencyMatrix::new  (as the parameter `freqOk`)

  The scalar type `α` of the matrix is a parameter: `conv` is `str::parse::<f32>` on a float
  lexeme, `freqOk` the test "every row sums to 1 within 0.01" of `FrequencyMatrix::new`.  The
  driver instantiates them with IEEE `Float32`; the theorems hold for every instance.
-/
import LMV.Model.ReaderCommon
import LMV.Lemmas.Stream

namespace LMV
namespace Uniprobe

open Io Nom

variable {α : Type}

/-- `frequencies`: `many1(preceded(tab, float))` -/
def frequencies (conv : Bytes → Option α) : Parser (List α) :=
  many1 (preceded (char 0x09) (float conv))

/-- `matrix_column`: `terminated(separated_pair(symbol, char(':'), frequencies), line_ending)` -/
def matrixColumn (A : Alphabet) (conv : Bytes → Option α) : Parser (Nat × List α) :=
  terminated (separatedPair (symbol A) (char 0x3A) (frequencies conv)) lineEnding

/-- `build_matrix` (repaired: an empty column list is `Err(InvalidData)`; was `input[0]`) -/
def buildMatrix (A : Alphabet) (zero : α) (input : List (Nat × List α)) : Built α A.K :=
  match input with
  | [] => .invalid
  | (_, c0) :: _ => buildSymLoop ((Mat.empty : Mat α A.K).resize c0.length zero) [] input

/-- `id`: `map(terminated(not_line_ending, line_ending), str::trim)` -/
def idLine : Parser Bytes := pmap (terminated notLineEnding lineEnding) trim

structure URecord (α : Type) (K : Nat) where
  id : Bytes
  matrix : Mat α K

structure State where
  buffer : Bytes     -- the `String` holding the pending line
  line : Bool        -- whether `buffer` holds an unconsumed non-blank line
  data : Bytes
  sched : List Nat

def new (sched : List Nat) (data : Bytes) : State :=
  { buffer := [], line := false, data := data, sched := sched }

/-- result of `while !self.line { read_line … }` -/
inductive Adv where
  | ioErr (buffer data : Bytes) (sched : List Nat)    -- `Err(e)` of `read_line` (invalid UTF-8)
  | eof (buffer data : Bytes) (sched : List Nat)      -- `Ok(0)`
  | found (buffer data : Bytes) (sched : List Nat)    -- a non-blank line is in `buffer`

theorem readLine_lt (sched : List Nat) (data l : Bytes) (h : (readLine sched data).1 = some l)
    (hl : l ≠ []) : (readLine sched data).2.1.length < data.length := readLine_rest_lt h hl

/-- `while !self.line { match read_line(&mut buffer) { Err => return, Ok(0) => stop, Ok(_) =>
    if !buffer.trim().is_empty() { line = true } else { buffer.clear() } } }` -/
def advance (buffer : Bytes) (sched : List Nat) (data : Bytes) : Adv :=
  match h : (readLine sched data).1 with
  | none => .ioErr buffer (readLine sched data).2.1 (readLine sched data).2.2
  | some l =>
    if hl : l = [] then .eof buffer (readLine sched data).2.1 (readLine sched data).2.2
    else if !isBlank (buffer ++ l) then
      .found (buffer ++ l) (readLine sched data).2.1 (readLine sched data).2.2
    else advance [] (readLine sched data).2.2 (readLine sched data).2.1
termination_by data.length
decreasing_by exact readLine_lt sched data l h hl

def Adv.data : Adv → Bytes
  | .ioErr _ d _ => d
  | .eof _ d _ => d
  | .found _ d _ => d

/-- `advance` without the proofs its recursion carries -/
theorem advance_eq (buffer : Bytes) (sched : List Nat) (data : Bytes) :
    advance buffer sched data =
      match (readLine sched data).1 with
      | none => .ioErr buffer (readLine sched data).2.1 (readLine sched data).2.2
      | some l =>
        if l = [] then .eof buffer (readLine sched data).2.1 (readLine sched data).2.2
        else if !isBlank (buffer ++ l) then
          .found (buffer ++ l) (readLine sched data).2.1 (readLine sched data).2.2
        else advance [] (readLine sched data).2.2 (readLine sched data).2.1 := by
  rw [advance]
  split
  · rename_i h; rw [h]
  · rename_i l h
    rw [h]
    by_cases hl : l = [] <;> simp [hl]

/-- what `advance` leaves is no more than it was given; a line that is found came out of the stream -/
theorem advance_size (buffer : Bytes) (sched : List Nat) (data : Bytes) :
    (advance buffer sched data).data.length ≤ data.length ∧
    ∀ b d s, advance buffer sched data = .found b d s →
      b.length + d.length ≤ buffer.length + data.length ∧ d.length < data.length := by
  induction h : data.length using Nat.strongRecOn generalizing buffer sched data with
  | _ n ih =>
    subst h
    have hle := readLine_le sched data
    rw [advance_eq]
    cases hl : (readLine sched data).1 with
    | none => exact ⟨hle, fun b d s h => nomatch h⟩
    | some l =>
      have hcons := readLine_conserve hl
      simp only
      by_cases hnil : l = []
      · rw [if_pos hnil]; exact ⟨hle, fun b d s h => nomatch h⟩
      rw [if_neg hnil]
      have hlt := readLine_rest_lt hl hnil
      split
      · refine ⟨hle, fun b d s h => ?_⟩
        cases h
        simp only [List.length_append]
        omega
      · obtain ⟨h1, h2⟩ := ih _ hlt [] (readLine sched data).2.2 (readLine sched data).2.1 rfl
        refine ⟨by omega, fun b d s h => ?_⟩
        have := h2 b d s h
        simp only [List.length_nil] at this
        omega

theorem advance_le (buffer : Bytes) (sched : List Nat) (data : Bytes) :
    (advance buffer sched data).data.length ≤ data.length ∧
    (∀ b d s, advance buffer sched data = .found b d s → d.length < data.length) :=
  ⟨(advance_size buffer sched data).1, fun b d s h => ((advance_size buffer sched data).2 b d s h).2⟩

/-- result of the `loop` that collects the matrix lines of one record -/
inductive Cols (α : Type) where
  | ioErr (data : Bytes) (sched : List Nat)
  | stop (cols : List (Nat × List α)) (buffer : Bytes) (line : Bool) (data : Bytes) (sched : List Nat)

/-- `loop { while !line { read_line … Ok(0) => break … } match matrix_column(&buffer) { Err(_) =>
    break, Ok((_, column)) => { columns.push(column); buffer.clear(); line = false } } }`; every
    iteration starts with `line = false` and an empty buffer -/
def columnsLoop (A : Alphabet) (conv : Bytes → Option α) (acc : List (Nat × List α))
    (sched : List Nat) (data : Bytes) : Cols α :=
  match h : advance [] sched data with
  | .ioErr _ d s => .ioErr d s
  | .eof b d s =>
    -- `matrix_column("")` is an error: leave the loop with nothing pending
    .stop acc b false d s
  | .found b d s =>
    match matrixColumn A conv b with
    | .ok _ col => columnsLoop A conv (acc ++ [col]) s d
    | _ => .stop acc b true d s
termination_by data.length
decreasing_by exact (advance_le [] sched data).2 b d s h

/-- `Iterator::next`; `freqOk` is the check of `FrequencyMatrix::new` -/
def next (A : Alphabet) (conv : Bytes → Option α) (zero : α) (freqOk : Mat α A.K → Bool)
    (s : State) : Outcome (URecord α A.K) × State :=
  -- advance to the first line with content
  let pending : Adv :=
    if s.line then .found s.buffer s.data s.sched else advance s.buffer s.sched s.data
  match pending with
  | .ioErr b d sc => (.error .io, { buffer := b, line := false, data := d, sched := sc })
  | .eof b d sc => (.done, { buffer := b, line := false, data := d, sched := sc })
  | .found b d sc =>
    -- parse id
    match idLine b with
    | .ok _ id =>
      -- `self.line = false; self.buffer.clear();` then the columns
      match columnsLoop A conv [] sc d with
      | .ioErr d' sc' => (.error .io, { buffer := [], line := false, data := d', sched := sc' })
      | .stop cols b' line' d' sc' =>
        let st : State := { buffer := b', line := line', data := d', sched := sc' }
        match buildMatrix A zero cols with
        | .panic site => (.panic site, st)
        | .invalid => (.error .invalidData, st)
        | .ok m =>
          if freqOk m then (.record { id := id, matrix := m }, st) else (.error .invalidData, st)
    | e => (ofNomErr e, { buffer := b, line := true, data := d, sched := sc })

/-! ### renderer -/

/-- a UniPROBE motif as written: the id line and the symbol lines in file order, each with the
    lexemes of its frequencies -/
structure Src where
  id : Bytes
  cols : List (Nat × List Bytes)

def renderCol (A : Alphabet) (c : Nat × List Bytes) : Bytes :=
  A.letters.getD c.1 0 :: 0x3A :: c.2.flatMap (fun lex => 0x09 :: lex) ++ [0x0A]

def render1 (A : Alphabet) (r : Src) : Bytes :=
  r.id ++ [0x0A] ++ r.cols.flatMap (renderCol A) ++ [0x0A]

def render (A : Alphabet) (rs : List Src) : Bytes := rs.flatMap (render1 A)

/-- a plain decimal lexeme: digits, optionally followed by `.` and digits -/
def wfLex (lex : Bytes) : Bool :=
  !(lex.takeWhile isDigit).isEmpty &&
  match lex.dropWhile isDigit with
  | [] => true
  | 0x2E :: fp => fp.all isDigit
  | _ => false

/-- well-formed id line: starts with an ASCII non-blank character, is trimmed, has no line break,
    is valid UTF-8, and cannot be taken for a matrix line (its second byte is not `:`) -/
def WFId (id : Bytes) : Prop :=
  (match id with
   | b :: _ => b < 0x80 ∧ isWs1 b = false
   | [] => False) ∧
  trim id = id ∧ (∀ b ∈ id, b ≠ 0x0A ∧ b ≠ 0x0D) ∧ validUtf8 id = true ∧ (id.drop 1).head? ≠ some 0x3A

instance (id : Bytes) : Decidable (WFId id) := by
  unfold WFId; cases id <;> infer_instance

/-- the matrix a well-formed motif must be read back as: the value of every lexeme in the row of
    its position and the column of its symbol, other columns `zero` -/
def expectMatrix (A : Alphabet) (conv : Bytes → Option α) (zero : α) (r : Src) : Mat α A.K :=
  Mat.ofFn (r.cols.headD (0, [])).2.length fun i j =>
    match r.cols.find? (·.1 == j) with
    | some c => ((c.2.getD i []) |> conv).getD zero
    | none => zero

/-- well-formed motif: id line as above; at least one symbol line; symbols of the alphabet,
    pairwise distinct, in any order; lines of one length `≥ 1`; plain decimal lexemes that `conv`
    accepts; rows that pass the frequency test of `FrequencyMatrix::new` -/
def WF (A : Alphabet) (conv : Bytes → Option α) (zero : α) (freqOk : Mat α A.K → Bool) (r : Src) : Prop :=
  WFId r.id ∧ r.cols ≠ [] ∧ (∀ c ∈ r.cols, c.1 < A.K) ∧ (r.cols.map (·.1)).Nodup ∧
  (∀ c ∈ r.cols, c.2.length = (r.cols.headD (0, [])).2.length) ∧
  0 < (r.cols.headD (0, [])).2.length ∧
  (∀ c ∈ r.cols, ∀ lex ∈ c.2, wfLex lex = true ∧ (conv lex).isSome = true) ∧
  freqOk (expectMatrix A conv zero r) = true

instance (A : Alphabet) (conv : Bytes → Option α) (zero : α) (freqOk : Mat α A.K → Bool) (r : Src) :
    Decidable (WF A conv zero freqOk r) := by unfold WF; infer_instance

def expect (A : Alphabet) (conv : Bytes → Option α) (zero : α) (r : Src) : URecord α A.K :=
  { id := r.id, matrix := expectMatrix A conv zero r }

end Uniprobe
end LMV
