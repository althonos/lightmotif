/-
  LMV.Model.Mat — the executable dense-matrix container used by every model.

  mirrors: lightmotif/src/dense.rs::DenseMatrix  (logical contents only; layout arithmetic is in
  LMV.Model.Dense)

  A matrix is an array of rows, each row a `Vector α C`.  All models and all proofs go through the
  interface `rows / get / set / resize / ofFn / fill` and the laws proved at the end of this file; outside
  this file only Lemmas/MatLists.lean (the row-by-row view) unfolds the representation.  The compiled driver executes exactly these
  definitions, so the theorems are about the code the correspondence check runs.
-/

namespace LMV

structure Mat (α : Type) (C : Nat) where
  data : Array (Vector α C)
deriving Repr

namespace Mat

variable {α : Type} {C : Nat}

instance [DecidableEq α] : DecidableEq (Mat α C) := fun a b =>
  match a, b with
  | ⟨x⟩, ⟨y⟩ => if h : x = y then isTrue (by rw [h]) else isFalse (by intro e; cases e; exact h rfl)

/-- number of rows -/
@[inline] def rows (m : Mat α C) : Nat := m.data.size

/-- the empty matrix (`DenseMatrix::new(0)`) -/
def empty : Mat α C := ⟨#[]⟩

/-- total read; out-of-range cells read as `d` (models never rely on that value: every Rust
    out-of-range access is an explicit panic in the model that performs it). -/
@[inline] def getD (m : Mat α C) (r c : Nat) (d : α) : α :=
  match m.data[r]? with
  | some v => v[c]?.getD d
  | none => d

@[inline] def get [Inhabited α] (m : Mat α C) (r c : Nat) : α := m.getD r c default

/-- in-place cell write; a no-op when out of range (callers check the range first) -/
@[inline] def set (m : Mat α C) (r c : Nat) (x : α) : Mat α C :=
  ⟨m.data.modify r (fun v => v.setIfInBounds c x)⟩

/-- whole-row read -/
@[inline] def row (m : Mat α C) (r : Nat) (d : α) : Vector α C :=
  (m.data[r]?).getD (Vector.replicate C d)

/-- whole-row write; a no-op when out of range -/
@[inline] def setRow (m : Mat α C) (r : Nat) (v : Vector α C) : Mat α C :=
  ⟨m.data.setIfInBounds r v⟩

/-- `DenseMatrix::resize`: keep the first `n` rows, append rows filled with `d` -/
def resize (m : Mat α C) (n : Nat) (d : α) : Mat α C :=
  ⟨m.data.extract 0 n ++ Array.replicate (n - m.data.size) (Vector.replicate C d)⟩

/-- a matrix given cell by cell -/
def ofFn (n : Nat) (f : Nat → Nat → α) : Mat α C :=
  ⟨Array.ofFn (n := n) fun r => Vector.ofFn fun c => f r.val c.val⟩

/-- `DenseMatrix::fill` (logical cells) -/
def fill (m : Mat α C) (x : α) : Mat α C :=
  ⟨m.data.map fun _ => Vector.replicate C x⟩

/-- rows as lists: what iteration visits (`C19.iter_order`), and for printing -/
def toLists (m : Mat α C) : List (List α) := m.data.toList.map (·.toList)

/-! ### Laws -/

@[simp] theorem rows_empty : (empty : Mat α C).rows = 0 := rfl

@[simp] theorem rows_set (m : Mat α C) (r c : Nat) (x : α) : (m.set r c x).rows = m.rows := by
  simp [rows, set]

@[simp] theorem rows_setRow (m : Mat α C) (r : Nat) (v : Vector α C) :
    (m.setRow r v).rows = m.rows := by
  simp [rows, setRow]

@[simp] theorem rows_resize (m : Mat α C) (n : Nat) (d : α) : (m.resize n d).rows = n := by
  simp [rows, resize]; omega

@[simp] theorem rows_ofFn (n : Nat) (f : Nat → Nat → α) : (ofFn n f : Mat α C).rows = n := by
  simp [rows, ofFn]

@[simp] theorem rows_fill (m : Mat α C) (x : α) : (m.fill x).rows = m.rows := by
  simp [rows, fill]

theorem getD_of_rows_le (m : Mat α C) {r : Nat} (c : Nat) (d : α) (h : m.rows ≤ r) :
    m.getD r c d = d := by
  unfold getD rows at *
  rw [Array.getElem?_eq_none (by omega)]

theorem getD_of_cols_le (m : Mat α C) (r : Nat) {c : Nat} (d : α) (h : C ≤ c) :
    m.getD r c d = d := by
  unfold getD
  split
  · rw [Vector.getElem?_eq_none (by omega)]; rfl
  · rfl

theorem get_of_rows_le [Inhabited α] (m : Mat α C) {r : Nat} (c : Nat) (h : m.rows ≤ r) :
    m.get r c = default := getD_of_rows_le m c default h

theorem get_of_cols_le [Inhabited α] (m : Mat α C) (r : Nat) {c : Nat} (h : C ≤ c) :
    m.get r c = default := getD_of_cols_le m r default h

theorem getD_set (m : Mat α C) (r c : Nat) (x : α) (r' c' : Nat) (d : α) :
    (m.set r c x).getD r' c' d =
      if r' = r ∧ c' = c ∧ r < m.rows ∧ c < C then x else m.getD r' c' d := by
  unfold getD set rows
  simp only [Array.getElem?_modify]
  by_cases hr : r = r'
  · subst hr
    by_cases hlt : r < m.data.size
    · simp only [hlt, Array.getElem?_eq_getElem, if_true, Option.map_some]
      by_cases hc : c' = c
      · subst hc
        by_cases hcc : c' < C
        · simp [hcc]
        · simp [hcc]
      · simp [hc, Ne.symm hc]
    · simp [hlt]
  · have hr' : ¬ r' = r := fun h => hr h.symm
    simp [hr, hr']

@[simp] theorem get_set [Inhabited α] (m : Mat α C) (r c : Nat) (x : α) (r' c' : Nat) :
    (m.set r c x).get r' c' =
      if r' = r ∧ c' = c ∧ r < m.rows ∧ c < C then x else m.get r' c' := getD_set ..

theorem data_resize (m : Mat α C) (n : Nat) (d : α) (r : Nat) :
    (m.resize n d).data[r]? =
      if r < n then (if r < m.rows then m.data[r]? else some (Vector.replicate C d)) else none := by
  unfold resize rows
  simp only [Array.getElem?_append, Array.size_extract, Array.getElem?_extract,
    Array.getElem?_replicate, Nat.sub_zero, Nat.zero_add]
  by_cases h1 : r < n
  · by_cases h2 : r < m.data.size
    · have h3 : r < min n m.data.size := by omega
      simp [h1, h2, h3]
    · have h3 : ¬ r < min n m.data.size := by omega
      have h4 : r - min n m.data.size < n - m.data.size := by omega
      simp [h1, h2, h3, h4]
  · have h3 : ¬ r < min n m.data.size := by omega
    have h4 : ¬ r - min n m.data.size < n - m.data.size := by omega
    simp [h1, h3, h4]

theorem getD_resize (m : Mat α C) (n : Nat) (d : α) (r c : Nat) (e : α) :
    (m.resize n d).getD r c e =
      if r < n then (if r < m.rows then m.getD r c e else if c < C then d else e) else e := by
  unfold getD
  rw [data_resize]
  by_cases h1 : r < n
  · by_cases h2 : r < m.rows
    · simp [h1, h2]
    · by_cases hc : c < C
      · simp [h1, h2, hc]
      · simp [h1, h2, hc]
  · simp [h1]

@[simp] theorem get_resize [Inhabited α] (m : Mat α C) (n : Nat) (d : α) (r c : Nat) :
    (m.resize n d).get r c =
      if r < n then (if r < m.rows then m.get r c else if c < C then d else default)
      else default := getD_resize ..

theorem getD_ofFn (n : Nat) (f : Nat → Nat → α) (r c : Nat) (e : α) :
    (ofFn n f : Mat α C).getD r c e = if r < n ∧ c < C then f r c else e := by
  unfold getD ofFn
  by_cases hr : r < n
  · by_cases hc : c < C
    · simp [hr, hc]
    · simp [hr, hc]
  · simp [hr]

@[simp] theorem get_ofFn [Inhabited α] (n : Nat) (f : Nat → Nat → α) (r c : Nat) :
    (ofFn n f : Mat α C).get r c = if r < n ∧ c < C then f r c else default := getD_ofFn ..

theorem getD_fill (m : Mat α C) (x : α) (r c : Nat) (e : α) :
    (m.fill x).getD r c e = if r < m.rows ∧ c < C then x else e := by
  unfold getD fill rows
  by_cases hr : r < m.data.size
  · by_cases hc : c < C
    · simp [hr, hc]
    · simp [hr, hc]
  · simp [hr]

@[simp] theorem get_fill [Inhabited α] (m : Mat α C) (x : α) (r c : Nat) :
    (m.fill x).get r c = if r < m.rows ∧ c < C then x else default := getD_fill ..

/-- extensionality through the interface -/
theorem ext [Inhabited α] {a b : Mat α C} (hr : a.rows = b.rows)
    (h : ∀ r c, r < a.rows → c < C → a.get r c = b.get r c) : a = b := by
  cases a with | mk x => cases b with | mk y =>
  congr
  apply Array.ext
  · exact hr
  · intro i h1 h2
    apply Vector.ext
    intro j hj
    have := h i j h1 hj
    simpa [get, getD, h1, h2, hj] using this

/-- `m[(r, c)] += 1` on an in-range cell, read at any cell -/
theorem get_bump (m : Mat Nat C) (r c : Nat) (hr : r < m.rows) (hc : c < C) (r' c' : Nat) :
    (m.set r c (m.get r c + 1)).get r' c' = m.get r' c' + (if r' = r ∧ c' = c then 1 else 0) := by
  rw [get_set]
  by_cases e : r' = r ∧ c' = c
  · rw [if_pos ⟨e.1, e.2, hr, hc⟩, if_pos e, e.1, e.2]
  · rw [if_neg (fun h => e ⟨h.1, h.2.1⟩), if_neg e]; rfl

end Mat
end LMV
