/-
  LMV.Model.Tfm — executable mirror of the TFM-PVALUE port.

  mirrors: lightmotif-tfmpvalue/src/lib.rs::TfmPvalue::{new, recompute, distribution, lookup_pvalue,
           lookup_score, approximate_pvalue, approximate_score}, PvaluesIterator::next,
           ScoresIterator::next            (the tree WITH the four `fix:` commits of branch w-c1213)
  mirrors: lightmotif-tfmpvalue/src/hash.rs  (only as "a map from i64 to f64": iteration order of the
           hash map is not modelled, see below)

  Core Lean only.  One definition of every function, polymorphic in the scalar type through the
  class `Num`; two instances:
    * `Float`  (IEEE f64, the operations in the order the Rust performs them) — run by the driver;
    * `Rat`    (exact) — the instance the theorems of Props/C12, Props/C13 are about.

  Modelling decisions
  * Rows.  A matrix is the list of its rows restricted to the K-1 non-wildcard columns.  After
    the repairs the algorithm never reads the wildcard column.
  * Row permutation.  `new` sorts the rows by decreasing f32 range with an unstable sort; which
    permutation results among tied rows is not determined, and it is observable (row 0 is left out
    of `error_max`).  The implementation's permutation is read through `Debug`, checked with
    `admissiblePerm`, and handed to the model.  Nothing below depends on the rows being sorted: the
    theorems hold for every permutation.
  * Maps.  `IntMap<f64>` is a strictly ascending association list (`normalize`).  A row of the
    Rust loop nest `for (key,val) in map { for k in 0..K-1 { … entry(sc) += occ } }` becomes: list
    the contributions (`stepEntries`), sort them by key, add up equal keys.  The f64 sum of one key
    is therefore taken in another order than the hash map's; that is the 1e-9 tolerance of the
    correspondence.  Everything downstream of the maps (`last.sort…`, reverse cumulative sums, the
    scans) is order-faithful.
  * `qvalues`.  Only `qvalues[M-1]` is read by the look-ups; `distribution` returns that map.
    The Rust pre-inserts `(max+1, 0.0)` into it; here it is one more contribution with mass zero.
    (For M = 1 the Rust `insert` would overwrite an existing key instead; the properties are about
    M ≥ 2.)
  * i64.  Integer scores are `Int`; the harness keeps |score/granularity| far below 2^63.
  * Panics.  The only reachable panic sites are in `lookup_score` (`keys[riter + 1]`, `pvalues[&k]`);
    they are `none`.
-/

namespace LMV.Tfm

/-- the scalar operations TFM-PVALUE uses -/
class Num (α : Type) where
  add : α → α → α
  sub : α → α → α
  mul : α → α → α
  div : α → α → α
  /-- `a < b`, `a <= b`, `a == b` with the semantics of the Rust operators on f64 -/
  lt : α → α → Bool
  le : α → α → Bool
  beq : α → α → Bool
  /-- `i as f64` -/
  ofInt : Int → α
  /-- `x.floor() as i64`, `x.ceil() as i64` -/
  floor : α → Int
  ceil : α → Int
  zero : α
  one : α
  half : α
  /-- the literals `0.1` (first granularity) and `10.0` (decay) -/
  tenth : α
  ten : α

instance : Num Float where
  add := (· + ·)
  sub := (· - ·)
  mul := (· * ·)
  div := (· / ·)
  lt a b := decide (a < b)
  le a b := decide (a ≤ b)
  beq a b := a == b
  ofInt := Float.ofInt
  floor x := (Float.floor x).toInt64.toInt
  ceil x := (Float.ceil x).toInt64.toInt
  zero := 0.0
  one := 1.0
  half := 0.5
  tenth := 0.1
  ten := 10.0

instance : Num Rat where
  add := (· + ·)
  sub := (· - ·)
  mul := (· * ·)
  div := (· / ·)
  lt a b := decide (a < b)
  le a b := decide (a ≤ b)
  beq a b := decide (a = b)
  ofInt := fun i => (i : Rat)
  floor := Rat.floor
  ceil := Rat.ceil
  zero := 0
  one := 1
  half := 1 / 2
  tenth := 1 / 10
  ten := 10

local infixl:65 " +ₙ " => Num.add
local infixl:65 " -ₙ " => Num.sub
local infixl:70 " *ₙ " => Num.mul
local infixl:70 " /ₙ " => Num.div

variable {α : Type} [Num α]

/-! ### `new`: the row permutation -/

def f32max (a b : Float32) : Float32 := if a < b then b else a
def f32min (a b : Float32) : Float32 := if b < a then b else a

/-- `max_score - min_score` of one row over the non-wildcard columns, in f32 as the Rust does -/
def rowRange32 (r : List Float32) : Float32 :=
  match r with
  | [] => 0
  | x :: t => t.foldl f32max x - t.foldl f32min x

/-- `perm` is a permutation of `0..M` along which the ranges never increase: every outcome
    `sort_unstable_by(|i, j| range[j].partial_cmp(&range[i]))` can produce, and nothing else -/
def admissiblePerm (ranges : List Float32) (perm : List Nat) : Bool :=
  perm.length == ranges.length
    && (List.range ranges.length).all (fun i => perm.contains i)
    && (perm.zip perm.tail).all (fun (i, j) => !(ranges.getD i 0 < ranges.getD j 0))

/-- the rows in the order the algorithm uses them -/
def permute {β : Type} (rows : List (List β)) (perm : List Nat) : List (List β) :=
  perm.map (fun p => rows.getD p [])

/-! ### `recompute` -/

def listMin : List Int → Int
  | [] => 0
  | x :: t => t.foldl min x

def listMax : List Int → Int
  | [] => 0
  | x :: t => t.foldl max x

/-- `(matrix[p][j] as f64 / granularity).floor() as i64` for the K-1 columns of a row -/
def floorRow (g : α) (r : List α) : List Int := r.map (fun x => Num.floor (x /ₙ g))

/-- `Iterator::max_by(|x, y| x.partial_cmp(y).unwrap_or(Less))`: a later element replaces the
    running maximum unless the running maximum compares greater -/
def maxBy : List α → α
  | [] => Num.zero
  | x :: t => t.foldl (fun acc y => if Num.lt y acc then acc else y) x

/-- rounding errors `x/g - ⌊x/g⌋` of one row, and their maximum (`max_e`) -/
def rowErrs (g : α) (r : List α) : List α := r.map (fun x => (x /ₙ g) -ₙ Num.ofInt (Num.floor (x /ₙ g)))

def rowErr (g : α) (r : List α) : α := maxBy (rowErrs g r)

/-- `self.error_max = 0.0; for i in 1..M { self.error_max += max_e }` -/
def errorMax (g : α) (rows : List (List α)) : α :=
  (rows.drop 1).foldl (fun acc r => acc +ₙ rowErr g r) Num.zero

/-- `offsets[i] = -min_j int_matrix[i][j]` -/
def rowOffset (fr : List Int) : Int := - listMin fr

/-- one row of the integer matrix after the offset has been added -/
def intRow (g : α) (r : List α) : List Int :=
  let fr := floorRow g r
  fr.map (· + rowOffset fr)

structure Rec (α : Type) where
  g : α
  /-- `int_matrix`, K-1 columns, offsets included -/
  im : List (List Int)
  offsets : List Int
  errorMax : α
  minRows : List Int
  maxRows : List Int

/-- `recompute(granularity)` on the permuted rows -/
def recompute (rows : List (List α)) (g : α) : Rec α :=
  let im := rows.map (intRow g)
  { g := g
    im := im
    offsets := rows.map (fun r => rowOffset (floorRow g r))
    errorMax := errorMax g rows
    minRows := im.map listMin
    maxRows := im.map listMax }

/-! ### finite maps -/

abbrev IMap (α : Type) := List (Int × α)

/-- add up runs of equal keys (on a list sorted by key: all equal keys) -/
def combineAux (k : Int) (v : α) : List (Int × α) → List (Int × α)
  | [] => [(k, v)]
  | (k', v') :: t => if k' = k then combineAux k (v +ₙ v') t else (k, v) :: combineAux k' v' t

def combine : List (Int × α) → List (Int × α)
  | [] => []
  | (k, v) :: t => combineAux k v t

/-- the map holding, for every key, the sum of the contributions to it -/
def normalize (l : List (Int × α)) : IMap α :=
  combine (l.mergeSort (fun a b => decide (a.1 ≤ b.1)))

/-- `Σ` of the values, taken from the greatest key down (`sum += q[l]` over `last.iter().rev()`) -/
def total (q : IMap α) : α := q.foldr (fun e acc => acc +ₙ e.2) Num.zero

/-- `pvalues[k]` of `lookup_pvalue`: the sum over the keys `≥ k` -/
def tailFrom (q : IMap α) (k : Int) : α := total (q.filter (fun e => decide (k ≤ e.1)))

/-! ### `distribution` -/

/-- `maxs[pos+1]`: the greatest integer score the rows after `pos` can still add -/
def sumMax (rest : List (List Int)) : Int := (rest.map listMax).sum

/-- row 0: `if int_matrix[0][k] + maxs[1] >= min { qvalues[0][int_matrix[0][k]] += bg[k] }` -/
def firstEntries (row : List Int) (bg : List α) (maxsNext min : Int) : List (Int × α) :=
  (row.zip bg).filterMap fun (x, b) =>
    if x + maxsNext ≥ min then some (x, b) else none

/-- row `pos ≥ 1`: every reachable score of the previous row extended by every symbol; dropped
    when `min` cannot be reached any more, collapsed into the key `max+1` of THIS row when above
    `max` (the next row multiplies that bucket by the background like any other key) -/
def stepEntries (row : List Int) (bg : List α) (maxsNext min max : Int) (prev : IMap α) :
    List (Int × α) :=
  prev.flatMap fun (key, val) =>
    (row.zip bg).filterMap fun (x, b) =>
      let sc := key + x
      if sc + maxsNext ≥ min then some (if sc > max then max + 1 else sc, val *ₙ b) else none

def distFrom (bg : List α) (min max : Int) : List (List Int) → IMap α → IMap α
  | [], q => q
  | row :: rest, q => distFrom bg min max rest (normalize (stepEntries row bg (sumMax rest) min max q))

/-- `distribution(min, max)`; the result is `qvalues[M-1]` -/
def distribution (im : List (List Int)) (bg : List α) (min max : Int) : IMap α :=
  match im with
  | [] => []
  | row0 :: rest =>
    normalize ((max + 1, Num.zero) ::
      distFrom bg min max rest (normalize (firstEntries row0 bg (sumMax rest) min)))

/-! ### `lookup_pvalue` -/

/-- `while kmax > 0 && keys[kmax] as f64 >= s as f64 - error_max { kmax -= 1 }` on the keys
    `keys[0..=kmax]` listed from `kmax` down; returns `keys[kmax]` -/
def walkDown (thr : α) : List Int → Int → Int
  | [], d => d
  | [k], _ => k
  | k :: k' :: t, d => if Num.le thr (Num.ofInt k) then walkDown thr (k' :: t) d else k

/-- the window `(avg, min, max)` of integer scores for a query score -/
def pvalueWindow (rc : Rec α) (score : α) : Int × Int × Int :=
  let scaled := (score /ₙ rc.g) +ₙ Num.ofInt rc.offsets.sum
  (Num.floor scaled,
   Num.floor ((scaled -ₙ rc.errorMax) -ₙ Num.one),
   Num.floor ((scaled +ₙ rc.errorMax) +ₙ Num.one))

/-- `lookup_pvalue(score)` = `(pmin, pmax)` -/
def lookupPvalue (rc : Rec α) (bg : List α) (score : α) : α × α :=
  let (avg, min, max) := pvalueWindow rc score
  let q := distribution rc.im bg min max
  -- `s`: the last assignment of `if l >= avg { s = l }` going down = the least key ≥ avg
  let s := q.foldr (fun e s => if avg ≤ e.1 then e.1 else s) (max + 1)
  let below := (q.filter (fun e => decide (e.1 ≤ s))).map (·.1)
  let kmax := walkDown (Num.ofInt s -ₙ rc.errorMax) below.reverse s
  (tailFrom q s, tailFrom q kmax)

/-! ### `lookup_score` -/

/-- state of the scan `while riter > 0 { sum += q[keys[riter]]; pvalues.insert(…); if sum >= pvalue
    { break } riter -= 1 }` over the keys from the top: the running sum, `pvalues` (most recent
    first) and the keys from `keys[riter]` down -/
def scanDown (p : α) : α → List (Int × α) → List (Int × α) → α × List (Int × α) × List (Int × α)
  | sum, pv, [] => (sum, pv, [])
  | sum, pv, [e] => (sum, pv, [e])
  | sum, pv, e :: e' :: t =>
    let sum' := sum +ₙ e.2
    if Num.le p sum' then (sum', (e.1, sum') :: pv, e :: e' :: t)
    else scanDown p sum' ((e.1, sum') :: pv) (e' :: t)

/-- `pvalues[&k]` (panics on a missing key) -/
def pvGet (pv : List (Int × α)) (k : Int) : Option α := (pv.find? (fun e => e.1 == k)).map (·.2)

/-- the part of `lookup_score` after `self.distribution(min, max)`: `q` is `qvalues[M-1]`,
    `errMax` is `self.error_max` -/
def lookupScoreQ (errMax : α) (q : IMap α) (p : α) : Option (Int × α × α) :=
  match scanDown p Num.zero [] q.reverse with
  | (_, _, []) => none                       -- `keys.len() - 1` on an empty key list
  | (sum, pv, cur :: below) =>
    -- `keys[riter + 1]`: the key processed just before `cur` (if `cur` itself was processed it is
    -- the second entry of `pvalues`, otherwise the first)
    let above : Option Int :=
      match pv with
      | [] => none
      | e :: pv' => if e.1 = cur.1 then pv'.head?.map (·.1) else some e.1
    let fin (alpha alphaE : Int) (pv : List (Int × α)) : Option (Int × α × α) :=
      if Num.lt errMax (Num.ofInt (alpha - alphaE)) then
        match pvGet pv alpha with
        | some a => some (alpha, a, a)
        | none => none
      else
        match pvGet pv alphaE, pvGet pv alpha with
        | some e, some a => some (alpha, e, a)
        | _, _ => none
    if Num.lt p sum then
      match above with
      | none => none                         -- `keys[riter + 1]` out of bounds
      | some alpha => fin alpha cur.1 pv
    else
      match below with
      | [] => fin cur.1 cur.1 ((cur.1, sum) :: pv)                       -- riter == 0
      | e :: _ =>
        let sum' := sum +ₙ ((pvGet pv e.1).getD Num.zero)
        fin cur.1 e.1 ((e.1, sum') :: pv)

/-- `lookup_score(pvalue, min..=max)` = `(alpha, range.start, range.end)`; `none` = panic -/
def lookupScore (rc : Rec α) (bg : List α) (p : α) (min max : Int) : Option (Int × α × α) :=
  lookupScoreQ rc.errorMax (distribution rc.im bg min max) p

/-! ### the two iterators -/

structure Iteration (α : Type) where
  score : α
  start : α
  stop : α
  granularity : α
  converged : Bool

/-- `approximate_pvalue(score).take(fuel)`; state `(granularity, converged)` -/
def pvalueSteps (rows : List (List α)) (bg : List α) (score : α) :
    Nat → α → Bool → List (Iteration α)
  | 0, _, _ => []
  | fuel + 1, g, converged =>
    if converged || Num.le g Num.zero then []
    else
      let rc := recompute rows g
      let (pmin, pmax) := lookupPvalue rc bg score
      let conv := Num.beq pmin pmax
      { score := score, start := pmin, stop := pmax, granularity := g, converged := conv } ::
        pvalueSteps rows bg score fuel (g /ₙ Num.ten) conv

def approximatePvalue (rows : List (List α)) (bg : List α) (score : α) (fuel : Nat) :
    List (Iteration α) :=
  pvalueSteps rows bg score fuel Num.tenth false

/-- `ceil(error_max + 0.5)` as used for the window (an integer-valued f64 in the Rust) -/
def halfWidth (rc : Rec α) : Int := Num.ceil (rc.errorMax +ₙ Num.half)

/-- the offset-free window handed from one refinement to the next -/
def nextWindow (rc : Rec α) (iscore : Int) : Int × Int :=
  let c : α := Num.ofInt (halfWidth rc)
  let a : α := Num.ofInt (iscore - rc.offsets.sum)
  (Num.floor ((a -ₙ c) *ₙ Num.ten), Num.floor ((a +ₙ c) *ₙ Num.ten))

/-- `approximate_score(pvalue).take(fuel)`; state `(granularity, converged, min, max)`; the second
    component is `true` when a step panicked (the steps before it are kept) -/
def scoreSteps (rows : List (List α)) (bg : List α) (p : α) :
    Nat → α → Bool → Int → Int → List (Iteration α) × Bool
  | 0, _, _, _, _ => ([], false)
  | fuel + 1, g, converged, min, max =>
    if converged || Num.le g Num.zero then ([], false)
    else
      let rc := recompute rows g
      let offset := rc.offsets.sum
      let slack := Num.ceil (rc.errorMax +ₙ Num.one)
      match lookupScore rc bg p (min + offset - slack) (max + offset) with
      | none => ([], true)
      | some (iscore, start, stop) =>
        let (min', max') := nextWindow rc iscore
        let conv := Num.beq start stop
        let (rest, pn) := scoreSteps rows bg p fuel (g /ₙ Num.ten) conv min' max'
        ({ score := Num.ofInt (iscore - offset) *ₙ g, start := start, stop := stop,
           granularity := g, converged := conv } :: rest, pn)

/-- the first window: every score the matrix can reach, offset-free -/
def firstWindow (rc : Rec α) : Int × Int :=
  (rc.minRows.sum - rc.offsets.sum, rc.maxRows.sum + halfWidth rc - rc.offsets.sum)

def approximateScore (rows : List (List α)) (bg : List α) (p : α) (fuel : Nat) :
    List (Iteration α) × Bool :=
  let (min, max) := firstWindow (recompute rows Num.tenth)
  scoreSteps rows bg p fuel Num.tenth false min max

end LMV.Tfm
